import PynetVerif.Lemmas.NegoStruct
/-!
C10 — acceptor-side presentation context negotiation follows PS3.8 and the
documented role table.

`Nego.negotiateAsAcceptor` / `Nego.negotiateUnrestricted` are the models of
`negotiate_as_acceptor` / `negotiate_unrestricted` (tied to the code by the
differential run of harness/props/c10.py), `Gen.Roles.table` is
`SCP_SCU_ROLES` as regenerated from the source, `Spec.Roles` the table of
docs/user/presentation_role_selection.rst.

Domain of the list-level theorems: ANY proposal list with distinct context ids,
any supported list (duplicates allowed: the last context for an abstract
syntax is the effective one, as in the code), any role dict.  They are stated
for every *returned* result; `C10_total` says when the function returns: every
proposal has a transfer syntax and role pairs are pairs of booleans (what a
role-selection item can carry — `ACSE._negotiate_as_acceptor` passes nothing
else).  Outside that domain the code raises IndexError/KeyError, which the
model reproduces (`Err`).
-/
namespace PynetVerif
open Nego Spec.Roles

/-- The code's table is the documented one: each of the 5×9 entries of `SCP_SCU_ROLES`
(requestor pair × acceptor configuration, `None` included) is the outcome the
documentation assigns — the acceptor's answer being its configuration capped by the
proposal, no answer at all when nothing was proposed or a configured role is `None` —
and the table has exactly those 5×9 keys. -/
theorem C10_roles_table :
    (∀ rq ∈ rqKeys, ∀ ac ∈ acKeys, ∃ oc, documented (toItem rq) ac = some oc ∧ tableLookup rq ac = .ok (enc oc)) ∧
    Gen.Roles.table.map (·.1) = rqKeys ∧ (∀ row ∈ Gen.Roles.table, row.2.map (·.1) = acKeys) := by
  exact ⟨table_doc, by decide⟩

/-! The list-level facts that hold in either mode are proved once, over `acceptorSide u`. -/
section either
variable {u : Bool} {sl : Nat → Bool} {rq ac : List Cx} {roles : Roles} {res : List AccCx} {reply : List RoleItem}

theorem side_ids (hd : DistinctIds rq) (hok : acceptorSide u sl rq ac roles = .ok (res, reply)) :
    (res.map fun r => (r.id, r.abs)).Perm (rq.map fun p => (p.id, p.abs)) ∧ (res.map (·.id)).Nodup :=
  have hp := side_keys hd hok
  ⟨hp, nodup_fst_of_perm hp hd⟩

theorem side_no_unproposed (hd : DistinctIds rq) (hb : BoolRoles roles)
    (hok : acceptorSide u sl rq ac roles = .ok (res, reply)) :
    ∀ it ∈ reply, ∃ a b, roles.lookup it.uid = some (some a, some b) ∧
      (it.scu = true → a = true) ∧ (it.scp = true → b = true) ∧
      ∃ r ∈ res, r.abs = it.uid ∧ r.result = 0 := by
  intro it hit
  obtain ⟨p, r, hr, hs⟩ := side_item_from hd hok hit
  obtain ⟨a, b, hl, hu, h0, ha, hb, -⟩ := sideOne_some hb hs
  exact ⟨a, b, hu ▸ hl, ha, hb, r, hr, (sideOne_id_abs hs).2.trans hu.symm, h0⟩

theorem side_never_roleless (hd : DistinctIds rq) (hok : acceptorSide u sl rq ac roles = .ok (res, reply))
    (hu : u = true → BoolRoles roles ∧
      ∀ p ∈ rq, sl p.abs = true → roles.lookup p.abs ≠ some (some false, some false)) :
    ∀ r ∈ res, r.result = 0 → r.asScu = some true ∨ r.asScp = some true := by
  intro r hr h0
  obtain ⟨p, hp, -, ro, hs⟩ := side_from hd hok hr
  obtain ⟨-, hs⟩ | ⟨-, -, ⟨_, hs⟩, -⟩ | ⟨hu', hsl, hs⟩ := sideOne_ok hs
  · exact hs.not_roleless h0
  · exact hs.not_roleless h0
  · cases hs with
    | noRole => simp
    | withRole t rest v o hts hl ht =>
      obtain ⟨x, y, rfl⟩ := lookup_bool (hu hu').1 hl
      have := table_unrestricted_role x y ht fun h => (hu hu').2 p hp hsl (by rw [hl, h.1, h.2])
      simpa using this

end either

section normal
variable {rq ac : List Cx} {roles : Roles} {res : List AccCx} {reply : List RoleItem}

/-- The function returns (raises nothing) whenever every proposal has a transfer syntax and
the proposed role pairs are booleans. -/
theorem C10_total (hts : HasTs rq) (hb : BoolRoles roles) : ∃ out, negotiateAsAcceptor rq ac roles = .ok out := by
  unfold negotiateAsAcceptor
  split
  · exact ⟨_, rfl⟩
  · split
    · obtain ⟨rs, h⟩ := mapE_total (f := noAcOne) fun p hp => noAcOne_total (hts p hp)
      simp [h]
    · obtain ⟨rs, h⟩ := mapE_total (f := negOne ac roles) (l := dictBy (fun p => (p.id, p.abs)) rq) fun p hp =>
        negOne_total hb (hts p (mem_dictBy _ hp))
      simp [h]

/-- Exactly one result per proposed context id, carrying the proposed abstract syntax. -/
theorem C10_one_result_per_id (hd : DistinctIds rq) (hok : negotiateAsAcceptor rq ac roles = .ok (res, reply)) :
    (res.map fun r => (r.id, r.abs)).Perm (rq.map fun p => (p.id, p.abs)) ∧ (res.map (·.id)).Nodup := by
  exact side_ids hd (acc_side hok)

/-- A context is accepted only with a transfer syntax that was proposed and is supported,
namely the first of the (effective) supported context's list that was proposed. -/
theorem C10_accept_ts (hd : DistinctIds rq) (hok : negotiateAsAcceptor rq ac roles = .ok (res, reply)) :
    ∀ r ∈ res, r.result = 0 → ∃ p ∈ rq, p.id = r.id ∧ ∃ c ∈ ac, c.abs = r.abs ∧ acLookup ac r.abs = some c ∧
      r.ts ∈ p.ts ∧ ∃ pre post, c.ts = pre ++ r.ts :: post ∧ ∀ x ∈ pre, x ∉ p.ts := by
  intro r hr h0
  obtain ⟨p, hp, hid, ro, hs⟩ := acc_from hd hok hr
  refine ⟨p, hp, hid, ?_⟩
  cases hs with
  | noAc | absRej | tsRej | roleRej => simp at h0
  | noneRole c t _ hl hf | accepted c t _ _ _ _ hl hf =>
    obtain ⟨h1, h2⟩ := firstCommon_some hf
    exact ⟨c, (acLookup_some hl).1, (acLookup_some hl).2, hl, h1, h2⟩

/-- Rejected as abstract-syntax-not-supported (3) exactly when no supported context has the
proposed abstract syntax. -/
theorem C10_reject_abs_iff (hd : DistinctIds rq) (hok : negotiateAsAcceptor rq ac roles = .ok (res, reply)) :
    ∀ r ∈ res, (r.result = 3 ↔ ∀ c ∈ ac, c.abs ≠ r.abs) := by
  intro r hr
  obtain ⟨p, hp, -, ro, hs⟩ := acc_from hd hok hr
  cases hs with
  | noAc _ _ hac => subst hac; simp
  | absRej _ _ _ hl => simpa using acLookup_none.mp hl
  | tsRej c _ _ _ hl | noneRole c _ _ hl | roleRej c _ _ _ _ _ hl | accepted c _ _ _ _ _ hl =>
    simp only [show (4 : Nat) ≠ 3 by decide, show (0 : Nat) ≠ 3 by decide, show (1 : Nat) ≠ 3 by decide, false_iff]
    intro h
    exact h c (acLookup_some hl).1 (acLookup_some hl).2

/-- Rejected as transfer-syntaxes-not-supported (4) exactly when the abstract syntax is supported
and none of the (effective) supported context's transfer syntaxes was proposed. -/
theorem C10_reject_ts_iff (hd : DistinctIds rq) (hok : negotiateAsAcceptor rq ac roles = .ok (res, reply)) :
    ∀ r ∈ res, ∀ p ∈ rq, p.id = r.id →
      (r.result = 4 ↔ ∃ c, acLookup ac r.abs = some c ∧ ∀ t ∈ c.ts, t ∉ p.ts) := by
  intro r hr p hp hid
  obtain ⟨p', hp', hid', ro, hs⟩ := acc_from hd hok hr
  cases eq_of_nodup_map Cx.id hd p' hp' p hp (hid'.trans hid.symm)
  cases hs with
  | noAc _ _ hac => subst hac; simp [acLookup_nil]
  | absRej _ _ _ hl => simp [hl]
  | tsRej c _ _ _ hl hf => simpa [hl] using firstCommon_none.mp hf
  | noneRole c t _ hl hf | roleRej c t _ _ _ _ hl hf | accepted c t _ _ _ _ hl hf =>
    simp only [show (0 : Nat) ≠ 4 by decide, show (1 : Nat) ≠ 4 by decide, false_iff, hl]
    rintro ⟨c', hc', hall⟩
    cases hc'
    obtain ⟨h1, pre, post, h2, _⟩ := firstCommon_some hf
    exact hall t (by rw [h2]; simp) h1

/-- Roles are granted as the documented table says: for a proposal whose abstract syntax is
supported with a common transfer syntax, the documented outcome for (proposed role item,
acceptor configuration) is either "rejected" — then the result is 1 (user rejection) — or the
context is accepted and the acceptor's roles are the documented ones. -/
theorem C10_roles_follow_doc (hd : DistinctIds rq) (hb : BoolRoles roles)
    (hok : negotiateAsAcceptor rq ac roles = .ok (res, reply)) :
    ∀ r ∈ res, r.result ≠ 3 → r.result ≠ 4 → ∃ c oc, acLookup ac r.abs = some c ∧
      documented (toItem ((roles.lookup r.abs).getD (none, none))) (c.scu, c.scp) = some oc ∧
      (oc = .rejected → r.result = 1) ∧
      (oc ≠ .rejected → r.result = 0 ∧ r.asScu = some oc.acceptor.1 ∧ r.asScp = some oc.acceptor.2) := by
  intro r hr h3 h4
  obtain ⟨p, hp, -, ro, hs⟩ := acc_from hd hok hr
  cases hs with
  | noAc | absRej => simp at h3
  | tsRej => simp at h4
  | noneRole c t _ hl hf hnone =>
    exact ⟨c, .default, hl, documented_of_none hnone, by simp, by simp [Outcome.acceptor]⟩
  | roleRej c t cu cp o _ hl hf hcu hcp ht h1 h2 =>
    obtain ⟨oc, hdoc, htab⟩ := table_rqRolesOf hb p.abs cu cp
    cases htab.symm.trans ht
    refine ⟨c, oc, hl, by rw [hcu, hcp]; exact hdoc, fun _ => rfl, fun hne => ?_⟩
    exact absurd (enc_acceptor_false.mp ⟨h1, h2⟩) hne
  | accepted c t cu cp o _ hl hf hcu hcp ht hb' =>
    obtain ⟨oc, hdoc, htab⟩ := table_rqRolesOf hb p.abs cu cp
    cases htab.symm.trans ht
    refine ⟨c, oc, hl, by rw [hcu, hcp]; exact hdoc, fun he => ?_, fun _ => ⟨rfl, rfl, rfl⟩⟩
    exact absurd (enc_acceptor_false.mpr he) hb'

/-- No role the requestor did not propose is granted: every role item of the answer belongs to
an accepted context, answers a proposed item, and says `True` only where the proposal did. -/
theorem C10_no_unproposed_role (hd : DistinctIds rq) (hb : BoolRoles roles)
    (hok : negotiateAsAcceptor rq ac roles = .ok (res, reply)) :
    ∀ it ∈ reply, ∃ a b, roles.lookup it.uid = some (some a, some b) ∧
      (it.scu = true → a = true) ∧ (it.scp = true → b = true) ∧
      ∃ r ∈ res, r.abs = it.uid ∧ r.result = 0 := by
  exact side_no_unproposed hd hb (acc_side hok)

/-- A context is never accepted with no usable role. -/
theorem C10_never_roleless (hd : DistinctIds rq) (hok : negotiateAsAcceptor rq ac roles = .ok (res, reply)) :
    ∀ r ∈ res, r.result = 0 → r.asScu = some true ∨ r.asScp = some true := by
  exact side_never_roleless hd (acc_side hok) nofun

end normal

section unrestricted
variable {sl : Nat → Bool} {rq ac : List Cx} {roles : Roles} {res : List AccCx} {reply : List RoleItem}

/-- Unrestricted mode returns under the same conditions. -/
theorem C10_total_unrestricted (hts : HasTs rq) (hb : BoolRoles roles) :
    ∃ out, negotiateUnrestricted sl rq ac roles = .ok out := by
  unfold negotiateUnrestricted
  obtain ⟨⟨resN, replyN⟩, hN⟩ := C10_total (rq := rq.filter fun p => !sl p.abs) (ac := ac) (roles := roles)
    (fun p hp => hts p (List.mem_filter.mp hp).1) hb
  obtain ⟨rs, h⟩ := mapE_total (f := unrOne roles) (l := rq.filter fun p => sl p.abs) fun p hp =>
    unrOne_total hb (hts p (List.mem_filter.mp hp).1)
  simp [hN, h]

/-- Exactly one result per proposed context id with the proposed abstract syntax, also in
unrestricted mode. -/
theorem C10_one_result_per_id_unrestricted (hd : DistinctIds rq)
    (hok : negotiateUnrestricted sl rq ac roles = .ok (res, reply)) :
    (res.map fun r => (r.id, r.abs)).Perm (rq.map fun p => (p.id, p.abs)) ∧ (res.map (·.id)).Nodup := by
  exact side_ids hd (unr_side hok)

/-- No unproposed role is granted in unrestricted mode either: the role items echo the proposal. -/
theorem C10_no_unproposed_role_unrestricted (hd : DistinctIds rq) (hb : BoolRoles roles)
    (hok : negotiateUnrestricted sl rq ac roles = .ok (res, reply)) :
    ∀ it ∈ reply, ∃ a b, roles.lookup it.uid = some (some a, some b) ∧
      (it.scu = true → a = true) ∧ (it.scp = true → b = true) ∧
      ∃ r ∈ res, r.abs = it.uid ∧ r.result = 0 := by
  exact side_no_unproposed hd hb (unr_side hok)

/-- STATED PROPERTY, unrestricted mode: "a context is never accepted with no usable role",
  ∀ r ∈ res, r.result = 0 → r.asScu = some true ∨ r.asScp = some true.
The code violates it: a storage-like context whose proposed roles are (False, False) is
accepted (result 0) with `as_scu = as_scp = False` and answered with a (False, False) role
item.  (pynetdicom/tests/test_presentation.py::TestNegotiateUnrestricted::test_roles_false_false
asserts exactly this behaviour.) -/
theorem C10_never_roleless_unrestricted_neg :
    ∃ (sl : Nat → Bool) (rq ac : List Cx) (roles : Roles) (res : List AccCx) (reply : List RoleItem),
      DistinctIds rq ∧ HasTs rq ∧ BoolRoles roles ∧ negotiateUnrestricted sl rq ac roles = .ok (res, reply) ∧
      ¬ (∀ r ∈ res, r.result = 0 → r.asScu = some true ∨ r.asScp = some true) := by
  refine ⟨fun _ => true, [{ id := 1, abs := 7, ts := [0] }], [], [(7, (some false, some false))],
    [{ id := 1, abs := 7, result := 0, ts := 0, asScu := some false, asScp := some false }],
    [{ uid := 7, scu := false, scp := false }], by decide, by decide, ?_, rfl, by decide⟩
  intro kv hkv
  simp at hkv
  subst hkv
  exact ⟨false, false, rfl⟩

/-- … and it holds whenever no storage-like proposal comes with a (False, False) role item. -/
theorem C10_never_roleless_unrestricted_partial (hd : DistinctIds rq) (hb : BoolRoles roles)
    (hex : ∀ p ∈ rq, sl p.abs = true → roles.lookup p.abs ≠ some (some false, some false))
    (hok : negotiateUnrestricted sl rq ac roles = .ok (res, reply)) :
    ∀ r ∈ res, r.result = 0 → r.asScu = some true ∨ r.asScp = some true := by
  exact side_never_roleless hd (unr_side hok) fun _ => ⟨hb, hex⟩

/-- STATED PROPERTY, unrestricted mode: "grants roles as the documented table says" — for a
storage-like context the acceptor behaves as if configured (True, True).  Violated when no
role item was proposed: the documented outcome is the default (acceptor is SCP only), the
code makes the acceptor SCU *and* SCP
(tests/test_presentation.py::TestNegotiateUnrestricted::test_storage asserts it). -/
theorem C10_roles_follow_doc_unrestricted_neg :
    ∃ (sl : Nat → Bool) (rq ac : List Cx) (roles : Roles) (res : List AccCx) (reply : List RoleItem),
      DistinctIds rq ∧ HasTs rq ∧ BoolRoles roles ∧ negotiateUnrestricted sl rq ac roles = .ok (res, reply) ∧
      ∃ r ∈ res, sl r.abs = true ∧ r.result = 0 ∧
        documented (toItem ((roles.lookup r.abs).getD (none, none))) (some true, some true) = some .default ∧
        r.asScu ≠ some Outcome.default.acceptor.1 := by
  refine ⟨fun _ => true, [{ id := 1, abs := 7, ts := [0] }], [], [],
    [{ id := 1, abs := 7, result := 0, ts := 0, asScu := some true, asScp := some true }], [],
    by decide, by decide, (by intro kv h; cases h), rfl, _, List.mem_cons_self, rfl, rfl, by decide, by decide⟩

/-- … with a role item proposed the acceptor's roles are the documented ones for the
configuration (True, True) (the documented "rejected" outcome shows up as no role at all —
see `C10_never_roleless_unrestricted_neg`). -/
theorem C10_roles_follow_doc_unrestricted_partial (hd : DistinctIds rq) (hb : BoolRoles roles)
    (hok : negotiateUnrestricted sl rq ac roles = .ok (res, reply)) :
    ∀ r ∈ res, sl r.abs = true → ∀ v, roles.lookup r.abs = some v →
      ∃ oc, documented (toItem v) (some true, some true) = some oc ∧
        r.result = 0 ∧ r.asScu = some oc.acceptor.1 ∧ r.asScp = some oc.acceptor.2 := by
  intro r hr hsl v hv
  obtain ⟨p, hp, -, ro, hs⟩ := side_from hd (unr_side hok) hr
  obtain ⟨h, -⟩ | ⟨-, hnsl, ⟨_, hs⟩, -⟩ | ⟨-, -, hs⟩ := sideOne_ok hs
  · cases h
  · rw [hs.id_abs.2, hnsl] at hsl
    cases hsl
  · cases hs with
    | noRole _ _ _ hl => simp [hl] at hv
    | withRole t rest v' o hts hl ht =>
      simp only [hl, Option.some.injEq] at hv
      subst hv
      obtain ⟨x, y, rfl⟩ := lookup_bool hb hl
      obtain ⟨oc, hdoc, htab⟩ := table_bool x y true true
      rw [htab] at ht
      cases ht
      exact ⟨oc, by simpa [toItem] using hdoc, rfl, rfl, rfl⟩

end unrestricted

/-- three proposals: CT accepted with the acceptor's preference and both roles, an unsupported
abstract syntax (3), a supported one without common transfer syntax (4) -/
example : negotiateAsAcceptor
    [{ id := 1, abs := 2, ts := [0, 1] }, { id := 3, abs := 5, ts := [0] }, { id := 5, abs := 4, ts := [2] }]
    [{ id := 0, abs := 2, ts := [1, 0], scu := some true, scp := some true }, { id := 0, abs := 4, ts := [0, 1] }]
    [(2, (some true, some true))]
    = .ok ([{ id := 1, abs := 2, result := 0, ts := 1, asScu := some true, asScp := some true },
            { id := 3, abs := 5, result := 3, ts := 0, asScu := some false, asScp := some false },
            { id := 5, abs := 4, result := 4, ts := 2, asScu := some false, asScp := some false }],
           [{ uid := 2, scu := true, scp := true }]) := rfl

example : DistinctIds [{ id := 1, abs := 2, ts := [0, 1] }, { id := 3, abs := 5, ts := [0] }, { id := 5, abs := 4, ts := [2] }] ∧
    HasTs [{ id := 1, abs := 2, ts := [0, 1] }, { id := 3, abs := 5, ts := [0] }, { id := 5, abs := 4, ts := [2] }] := by
  decide

example : BoolRoles [(2, (some true, some true)), (4, (some false, some false))] := by
  intro kv h
  simp at h
  rcases h with rfl | rfl
  · exact ⟨true, true, rfl⟩
  · exact ⟨false, false, rfl⟩

/-- (True, False) proposed against an SCU-only refusal: user rejection 1, no role item -/
example : negotiateAsAcceptor [{ id := 1, abs := 2, ts := [0] }]
    [{ id := 0, abs := 2, ts := [0], scu := some false, scp := some true }] [(2, (some true, some false))]
    = .ok ([{ id := 1, abs := 2, result := 1, ts := 0, asScu := some false, asScp := some false }], []) := rfl

/-- the code raises on a proposal without transfer syntax -/
example : negotiateAsAcceptor [{ id := 1, abs := 2, ts := [] }] [{ id := 0, abs := 2, ts := [0] }] [] = .error .index := rfl

end PynetVerif
