import PynetVerif.Props.C18
import PynetVerif.Gen.Dimse
/-!
C19 — requests on presentation contexts that were not accepted never reach a
handler.

Model: `Model/Ctx.lean` (`serveRequest` = `Association._serve_request`,
`cStoreScp` = `Association._c_store_scp`), tied to the code by
`harness/props/c19.py` (all 256 ids × 11 request kinds in-process; loopback
C-GET with C-STORE sub-operations on accepted and unaccepted ids).
-/
namespace PynetVerif
open Ctx

/-- **Acceptor path.**  A request whose context id is not the id of an accepted
context triggers no handler and no response, for every id, request kind, service
class, accepted set and state of the release/validity flags; and unless it is
dropped before the lookup (release already sent, or not a valid request) the
association is aborted. -/
theorem C19_no_handler (sentRelease validReq : Bool) (acc : List Cx) (ctxId : Nat)
    (svc : Svc) (k : Kind) (supported : Bool) (h : ctxId ∉ ids acc) :
    let o := serveRequest sentRelease validReq acc ctxId svc k supported
    o.handlerCalls = [] ∧ o.responses = [] ∧
      (sentRelease = false → validReq = true → o = .aborted) := by
  have hl := (lookup_none_iff acc ctxId).mpr h
  cases sentRelease <;> cases validReq <;>
    simp [serveRequest, hl, Outcome.handlerCalls, Outcome.responses]

/-- the outcome on an unaccepted id does not depend on what the request is -/
theorem C19_uniform (acc : List Cx) (ctxId : Nat) (h : ctxId ∉ ids acc)
    (svc svc' : Svc) (k k' : Kind) (s s' : Bool) :
    serveRequest false true acc ctxId svc k s = .aborted ∧
    serveRequest false true acc ctxId svc k s = serveRequest false true acc ctxId svc' k' s' := by
  have hl := (lookup_none_iff acc ctxId).mpr h
  simp [serveRequest, hl]

/-- a handler that is called sees the accepted context with the request's id, and
the response goes on that id -/
theorem C19_dispatch_context (sentRelease validReq : Bool) (acc : List Cx) (ctxId : Nat)
    (svc : Svc) (k : Kind) (supported : Bool) (h : Kind) (n : Nat)
    (hc : (h, n) ∈ (serveRequest sentRelease validReq acc ctxId svc k supported).handlerCalls) :
    n = ctxId ∧ ctxId ∈ ids acc ∧ scpDispatch svc k supported = some h ∧
      (serveRequest sentRelease validReq acc ctxId svc k supported).responses = [ctxId] := by
  unfold serveRequest at hc ⊢
  cases sentRelease <;> cases validReq <;> simp [Outcome.handlerCalls] at hc
  cases hl : lookup acc ctxId with
  | none => simp [hl] at hc
  | some c =>
    obtain ⟨hm, hid⟩ := lookup_some hl
    cases hd : scpDispatch svc k supported with
    | none => simp [hl, hd] at hc
    | some h' =>
      simp only [hl, hd, List.mem_singleton, Prod.mk.injEq] at hc
      obtain ⟨h1, h2⟩ := hc
      subst h1 h2
      refine ⟨hid, ?_, rfl, ?_⟩
      · exact hid ▸ List.mem_map.mpr ⟨c, hm, rfl⟩
      · simp [Outcome.responses, hid]

/-- service classes that check the message type route a request only to the
handler of its own kind -/
theorem C19_dispatch_kind (svc : Svc) (k h : Kind) (s : Bool)
    (hs : svc ≠ .verification ∧ svc ≠ .storage ∧ svc ≠ .relevantPatient)
    (hd : scpDispatch svc k s = some h) : h = k := by
  cases svc
  case verification | storage | relevantPatient => simp at hs
  case base => cases hd
  -- every other `SCP` is a match on the message type whose arms are `some k`, `none`, or `some k`
  -- under the `supported` test
  all_goals
    simp only [scpDispatch] at hd
    split at hd <;> simp_all

/-- **the property for sub-operations.**  With the test the code now makes first
(`Gen.Glue.subStoreRejectsUnaccepted`), a C-STORE request on a context id that was not accepted -
rejected, never proposed, even, 0 - reaches no handler, gets no response, and aborts the
association, exactly as `_serve_request` treats every other request. -/
theorem C19_substore (acc : List Cx) (reqCtx ab : Nat) (h : reqCtx ∉ ids acc) :
    (cStoreScp true acc reqCtx ab).handler = none ∧ (cStoreScp true acc reqCtx ab).rspCtx = none ∧
      (cStoreScp true acc reqCtx ab).refused = false ∧ (cStoreScp true acc reqCtx ab).aborted = true := by
  simp [cStoreScp, h]

/-- the source fact the theorem above rests on, regenerated from association.py on every run -/
theorem C19_substore_code : Gen.Glue.subStoreRejectsUnaccepted = true := rfl

/-- the same for the code as it is now -/
theorem C19_substore_as_coded (acc : List Cx) (reqCtx ab : Nat) (h : reqCtx ∉ ids acc) :
    (cStoreScp Gen.Glue.subStoreRejectsUnaccepted acc reqCtx ab).handler = none ∧
      (cStoreScp Gen.Glue.subStoreRejectsUnaccepted acc reqCtx ab).rspCtx = none ∧
      (cStoreScp Gen.Glue.subStoreRejectsUnaccepted acc reqCtx ab).aborted = true := by
  rw [C19_substore_code]
  exact ⟨(C19_substore acc reqCtx ab h).1, (C19_substore acc reqCtx ab h).2.1, (C19_substore acc reqCtx ab h).2.2.2⟩

/-- the repaired defect: without that test, context 1 alone accepted, a C-STORE request on
context 3 (never proposed) was handed to the `EVT_C_STORE` handler with context 1 by the
`KeyError` fallback of `_get_valid_context` -/
theorem C19_substore_unguarded_neg :
    ∃ (acc : List Cx) (reqCtx ab : Nat), reqCtx ∉ ids acc ∧
      (cStoreScp false acc reqCtx ab).handler ≠ none :=
  ⟨[⟨1, 10, ⟨20, true, false, true⟩, false, true⟩], 3, 10, by decide⟩

/-- and *every* sub-operation request on an unaccepted id was answered, none aborted the
association (either the handler's status or 0x0122 on context 1) -/
theorem C19_substore_unguarded_answered_neg (acc : List Cx) (reqCtx ab : Nat) (_h : reqCtx ∉ ids acc) :
    (cStoreScp false acc reqCtx ab).aborted = false ∧ (cStoreScp false acc reqCtx ab).rspCtx ≠ none := by
  rcases cStoreScp_cases false acc reqCtx ab with ⟨h, -⟩ | ⟨-, e⟩ | ⟨c, -, e⟩
  · cases h
  all_goals rw [e]; simp

/-- on an accepted id the handler only ever sees that very context (or, for UPS Push only, the
substituted one), with or without the test -/
theorem C19_substore_accepted_id (g : Bool) (acc : List Cx) (reqCtx ab : Nat) (c c' : Cx)
    (hk : lookup acc reqCtx = some c') (h : (cStoreScp g acc reqCtx ab).handler = some c)
    (hab : ab ≠ upsPush) : c = c' := by
  rcases cStoreScp_cases g acc reqCtx ab with ⟨-, -, e⟩ | ⟨-, e⟩ | ⟨c'', hg, e⟩ <;> rw [e] at h <;> cases h
  exact C18_context_id_respected _ _ _ _ _ _ _ _ hg hk (Or.inr hab)

example :
    let le : Ts := ⟨20, true, false, true⟩
    let acc : List Cx := [⟨1, verification, le, false, true⟩, ⟨3, 10, le, false, true⟩, ⟨5, 30, le, false, true⟩]
    (7 ∉ ids acc) ∧ (2 ∉ ids acc) ∧
    serveRequest false true acc 3 .storage .cStore false = .dispatched .cStore ⟨3, 10, le, false, true⟩ ∧
    serveRequest false true acc 7 .storage .cStore false = .aborted ∧
    serveRequest false true acc 5 .qr .cFind true = .dispatched .cFind ⟨5, 30, le, false, true⟩ ∧
    serveRequest false true acc 5 .qr .cStore true = .aborted ∧
    serveRequest true true acc 7 .storage .cStore false = .ignored ∧
    (∀ c ∈ acc, ¬ (AbOk 11 c ∧ c.asScp = true)) := by
  intro le acc; decide

/-- the `ctxId` the theorems above quantify over is the id of the PDV that carried the last
command-set fragment (`DIMSEMessage.context_id`, set by `decode_msg`): that, and not the id of a
later PDV of the same P-DATA, is what `receive_primitive` files the message under (syntax fact
regenerated from dimse.py on every run; the harness sends messages with mixed ids) -/
theorem C19_routes_by_command_context : Gen.Dimse.recvContextSource = "message.context_id" := rfl

/-- `_c_store_scp` looks the context of a C-STORE sub-operation up by the id the request arrived on
(`context_id=req._context_id`), not by SOP class alone (regenerated from association.py) -/
theorem C19_substore_lookup_by_request_id : Gen.Glue.subStoreById = true := rfl

end PynetVerif
