import PynetVerif.Spec.Reject
import PynetVerif.Lemmas.Strip
/-!
C13 — associations are established only when the acceptance policy allows them.

`Policy.decideAssoc` is the model of the code (`pdu.py` title setters +
`ACSE._negotiate_as_acceptor` + `_check_user_identity`), `Policy.runAcceptor` the
model of `Association.run_reactor`; `Spec.Reject` is the transcription of PS3.8
Table 9-21 and of the documented rejection reasons.  The correspondence with the
real acceptor is checked end-to-end by `harness/props/c13.py`.
-/
namespace PynetVerif
open Policy Spec.Reject

namespace C13

/-! The property's own predicates: padding = the space character only. -/

/-- the calling title, ignoring leading/trailing spaces, is in the required list (if any) -/
def CallingOk (p : Policy) (callingRaw : Bytes) : Prop :=
  p.requireCalling = [] ∨ spStrip callingRaw ∈ p.requireCalling.map spStrip

def CalledOk (p : Policy) (calledRaw : Bytes) : Prop :=
  p.requireCalled = false ∨ spStrip calledRaw = spStrip p.aeTitle

/-- a bound handler returned a positive verdict without raising -/
def IdentityOk (identity : Option Identity) : Prop :=
  ∀ i, identity = some i → i.handler = .notBound ∨ ∃ r, i.handler = .returns true r

def UnderLimit (p : Policy) (active : Nat) : Prop := active ≤ p.maxAssoc

/-- the same two title predicates with the strip the code applies (`str.strip()`) -/
def CallingOkPy (p : Policy) (callingRaw : Bytes) : Prop :=
  p.requireCalling = [] ∨ pyStrip callingRaw ∈ p.requireCalling.map pyStrip

def CalledOkPy (p : Policy) (calledRaw : Bytes) : Prop :=
  p.requireCalled = false ∨ pyStrip calledRaw = pyStrip p.aeTitle

/-- a check of the policy fails (code-level reading) -/
def Failed (p : Policy) (callingRaw calledRaw : Bytes) (identity : Option Identity) (active : Nat) :
    Check → Prop
  | .calling => ¬ CallingOkPy p callingRaw
  | .called => ¬ CalledOkPy p calledRaw
  | .identity => ¬ IdentityOk identity
  | .limit => ¬ UnderLimit p active

/-- `str.strip()` and a spaces-only strip agree on the field: no TAB/LF/VT/FF/CR/FS/GS/RS/US
next to the padding -/
def EdgeClean (raw : Bytes) : Prop := pyStrip raw = spStrip raw

/-- what the API setters (`set_ae`) guarantee for the configured titles -/
def ConfigValid (p : Policy) : Prop :=
  (∀ t ∈ p.requireCalling, validAE t = true) ∧ validAE p.aeTitle = true

def spaces (n : Nat) : Bytes := List.replicate n 0x20

end C13
open C13

theorem callingFail_false_iff (p : Policy) (c : Title) :
    callingFail p c = false ↔ (p.requireCalling = [] ∨ c ∈ p.requireCalling.map pyStrip) := by
  simp only [callingFail, Bool.and_eq_false_iff, Bool.not_eq_false', List.isEmpty_iff, List.contains_iff_mem]

theorem calledFail_false_iff (p : Policy) (c : Title) :
    calledFail p c = false ↔ (p.requireCalled = false ∨ c = pyStrip p.aeTitle) := by
  unfold calledFail
  cases p.requireCalled <;> simp

/-- `is_valid` of `_check_user_identity`: the handler's verdict; the default handler counts as a yes -/
theorem checkIdentity_fst (i : Identity) :
    (checkIdentity i).1 = match i.handler with
      | .notBound => true
      | .raises => false
      | .returns ok _ => ok := by
  obtain ⟨ty, rr, h⟩ := i
  cases h with
  | notBound => rfl
  | raises => rfl
  | returns ok r =>
    cases ok
    · rfl
    · simp only [checkIdentity, Bool.not_true, Bool.false_eq_true, if_false]
      split <;> rfl

theorem identityFail_false_iff (identity : Option Identity) :
    identityFail identity = false ↔ IdentityOk identity := by
  cases identity with
  | none => simp [identityFail, IdentityOk]
  | some i =>
    simp only [identityFail, IdentityOk, checkIdentity_fst, Option.some.injEq, forall_eq']
    cases i.handler <;> simp

theorem negotiate_none_iff (p : Policy) (calling called : Title) (identity : Option Identity)
    (active : Nat) :
    negotiate p calling called identity active = none ↔
      ((p.requireCalling = [] ∨ calling ∈ p.requireCalling.map pyStrip) ∧
       (p.requireCalled = false ∨ called = pyStrip p.aeTitle) ∧
       IdentityOk identity ∧ active ≤ p.maxAssoc) := by
  rw [← callingFail_false_iff, ← calledFail_false_iff, ← identityFail_false_iff, ← overLimit_false_iff]
  unfold negotiate
  cases callingFail p calling <;> cases calledFail p called <;> cases identityFail identity <;>
    cases overLimit active p.maxAssoc <;> simp

/-- Establishment implies every check of the policy passed — with the strip the
code applies (Python `str.strip()`: any ASCII whitespace).  No hypotheses. -/
theorem C13_only_if_codestrip (p : Policy) (callingRaw calledRaw : Bytes)
    (identity : Option Identity) (active : Nat)
    (h : decideAssoc p callingRaw calledRaw identity active = .accept) :
    CallingOkPy p callingRaw ∧ CalledOkPy p calledRaw ∧ IdentityOk identity ∧ UnderLimit p active := by
  rw [decideAssoc_of_valid (by simp [h])] at h
  apply (negotiate_none_iff ..).mp
  cases hn : negotiate p (pyStrip callingRaw) (pyStrip calledRaw) identity active with
  | none => rfl
  | some t => rw [hn] at h; cases h

/-- The property as stated (padding = spaces): holds whenever the received title
fields have no control-whitespace at their edges and the configured titles are
ones the API accepts. -/
theorem C13_only_if_partial (p : Policy) (callingRaw calledRaw : Bytes)
    (identity : Option Identity) (active : Nat) (hcfg : ConfigValid p)
    (h1 : EdgeClean callingRaw) (h2 : EdgeClean calledRaw)
    (h : decideAssoc p callingRaw calledRaw identity active = .accept) :
    CallingOk p callingRaw ∧ CalledOk p calledRaw ∧ IdentityOk identity ∧ UnderLimit p active := by
  obtain ⟨a, b, c, d⟩ := C13_only_if_codestrip p callingRaw calledRaw identity active h
  -- on the received fields by `EdgeClean`, on the configured titles by `ConfigValid`, the two strips agree
  have hm : p.requireCalling.map spStrip = p.requireCalling.map pyStrip :=
    List.map_congr_left fun t ht => (pyStrip_eq_spStrip_of_valid t (hcfg.1 t ht)).symm
  refine ⟨a.imp_right fun a => ?_, b.imp_right fun b => ?_, c, d⟩
  · rw [← (h1 : pyStrip callingRaw = spStrip callingRaw), hm]
    exact a
  · rw [← (h2 : pyStrip calledRaw = spStrip calledRaw), ← pyStrip_eq_spStrip_of_valid _ hcfg.2]
    exact b

/-- The full-strength statement (without `EdgeClean`) is false for the code: a
calling title field "\tABC" followed by spaces is accepted for the required title "ABC". -/
theorem C13_only_if_neg :
    ∃ (p : Policy) (callingRaw calledRaw : Bytes) (identity : Option Identity) (active : Nat),
      ConfigValid p ∧ decideAssoc p callingRaw calledRaw identity active = .accept ∧
      ¬ CallingOk p callingRaw := by
  refine ⟨⟨[[0x41, 0x42, 0x43]], false, [0x53], 1⟩,
    [0x09, 0x41, 0x42, 0x43] ++ List.replicate 12 0x20, [0x53] ++ List.replicate 15 0x20, none, 1,
    ?_, ?_, ?_⟩
  · constructor
    · intro t ht
      simp only [List.mem_singleton] at ht
      subst ht; decide
    · decide
  · decide
  · unfold CallingOk
    decide

/-- Conversely the policy never refuses a request it should admit: for decodable
title fields, no failed check ⇒ accepted. -/
theorem C13_accept_if (p : Policy) (callingRaw calledRaw : Bytes) (identity : Option Identity)
    (active : Nat) (hv : decideAssoc p callingRaw calledRaw identity active ≠ .invalid)
    (h : CallingOkPy p callingRaw ∧ CalledOkPy p calledRaw ∧ IdentityOk identity ∧ UnderLimit p active) :
    decideAssoc p callingRaw calledRaw identity active = .accept := by
  rw [decideAssoc_of_valid hv, (negotiate_none_iff ..).mpr h]
  rfl

theorem failed_iff (p : Policy) (callingRaw calledRaw : Bytes) (identity : Option Identity) (active : Nat)
    (c : Check) : Failed p callingRaw calledRaw identity active c ↔
      (match c with
        | .calling => callingFail p (pyStrip callingRaw)
        | .called => calledFail p (pyStrip calledRaw)
        | .identity => identityFail identity
        | .limit => overLimit active p.maxAssoc) = true := by
  -- `Failed c` is the negation of the predicate that the code's Boolean for `c` decides
  cases c <;> simp only [Failed, CallingOkPy, CalledOkPy, UnderLimit, ← callingFail_false_iff,
    ← calledFail_false_iff, ← identityFail_false_iff, ← overLimit_false_iff, Bool.not_eq_false]

/-- Every rejection carries the documented triple of a check that failed — namely
of the LAST failing check in the code's order (calling, called, identity, limit): the
triple decodes by PS3.8 Table 9-21 to exactly the documented result/source/reason. -/
theorem C13_reject_codes (p : Policy) (callingRaw calledRaw : Bytes) (identity : Option Identity)
    (active : Nat) (t : Policy.Triple)
    (h : decideAssoc p callingRaw calledRaw identity active = .reject t) :
    ∃ c : Check, Failed p callingRaw calledRaw identity active c ∧
      meaning t = some (documented c) ∧
      ∀ c' : Check, c.rank < c'.rank → ¬ Failed p callingRaw calledRaw identity active c' := by
  rw [decideAssoc_of_valid (by simp [h])] at h
  simp only [failed_iff]
  -- later checks overwrite earlier ones: go through them from the last; in each case the checks of
  -- higher rank are the ones already seen to pass
  unfold negotiate at h
  cases h4 : overLimit active p.maxAssoc with
  | true =>
    simp only [h4, if_true] at h; cases h
    exact ⟨.limit, rfl, rfl, fun c' hr => by cases c' <;> simp_all [Check.rank]⟩
  | false =>
    cases h3 : identityFail identity with
    | true =>
      simp only [h4, h3, if_true] at h; cases h
      exact ⟨.identity, rfl, rfl, fun c' hr => by cases c' <;> simp_all [Check.rank]⟩
    | false =>
      cases h2 : calledFail p (pyStrip calledRaw) with
      | true =>
        simp only [h4, h3, h2, if_true] at h; cases h
        exact ⟨.called, rfl, rfl, fun c' hr => by cases c' <;> simp_all [Check.rank]⟩
      | false =>
        cases h1 : callingFail p (pyStrip callingRaw) with
        | true =>
          simp only [h4, h3, h2, h1, if_true] at h; cases h
          exact ⟨.calling, rfl, rfl, fun c' hr => by cases c' <;> simp_all [Check.rank]⟩
        | false => simp [h4, h3, h2, h1] at h

/-- Leading/trailing whitespace — ANY character `str.strip()` strips — on the received calling and
called title fields never changes the verdict (this is the over-permissive side of
`C13_only_if_neg`). -/
theorem C13_strip_whitespace (p : Policy) (calling called : Bytes) (identity : Option Identity)
    (active : Nat) (a b c d : Bytes) (ha : a.all isPyWs = true) (hb : b.all isPyWs = true)
    (hc : c.all isPyWs = true) (hd : d.all isPyWs = true) :
    decideAssoc p (a ++ calling ++ b) (c ++ called ++ d) identity active
      = decideAssoc p calling called identity active := by
  unfold decideAssoc
  rw [decodeTitle_pad _ _ _ ha hb, decodeTitle_pad _ _ _ hc hd]

/-- In particular spaces, the padding the property speaks of (∀ amounts of padding on each side of
each field). -/
theorem C13_strip (p : Policy) (calling called : Bytes) (identity : Option Identity) (active : Nat)
    (l1 r1 l2 r2 : Nat) :
    decideAssoc p (spaces l1 ++ calling ++ spaces r1) (spaces l2 ++ called ++ spaces r2) identity active
      = decideAssoc p calling called identity active :=
  C13_strip_whitespace p calling called identity active _ _ _ _ (replicate_space_all l1)
    (replicate_space_all r1) (replicate_space_all l2) (replicate_space_all r2)

/-- Space padding of the CONFIGURED titles (`require_calling_aet` entries, the AE
title) never changes the verdict either. -/
theorem C13_strip_config (p : Policy) (f : Title → Title)
    (hf : ∀ t, ∃ l r, f t = spaces l ++ t ++ spaces r)
    (calling called : Bytes) (identity : Option Identity) (active : Nat) :
    decideAssoc { p with requireCalling := p.requireCalling.map f, aeTitle := f p.aeTitle }
        calling called identity active
      = decideAssoc p calling called identity active := by
  have hs : ∀ t, pyStrip (f t) = pyStrip t := by
    intro t
    obtain ⟨l, r, e⟩ := hf t
    rw [e]
    exact strip_pad _ _ _ (replicate_space_all l) (replicate_space_all r)
  have : (pyStrip ∘ f) = pyStrip := funext hs
  unfold decideAssoc negotiate callingFail calledFail
  simp only [List.map_map, List.isEmpty_map, hs, this]

/-- A rejected (or undecodable) request never reaches a DIMSE service handler: the
service loop of `Association.run_reactor` is entered only after an accept (and only
if no `EVT_REQUESTED` handler aborted the association first). -/
theorem C13_no_handlers (p : Policy) (callingRaw calledRaw : Bytes) (identity : Option Identity)
    (active : Nat) (h : Hook)
    (hs : Eff.serviceLoop ∈ runAcceptor p callingRaw calledRaw identity active h) :
    decideAssoc p callingRaw calledRaw identity active = .accept ∧ h.aborted = false ∧
      h.rejected = false := by
  unfold runAcceptor at hs
  generalize decideAssoc p callingRaw calledRaw identity active = o at hs ⊢
  obtain ⟨a, r⟩ := h
  cases o <;> cases a <;> cases r <;> simp at hs ⊢

/-- … and what a rejected request gets is exactly one A-ASSOCIATE-RJ with the model's triple. -/
theorem C13_rejected_trace (p : Policy) (callingRaw calledRaw : Bytes) (identity : Option Identity)
    (active : Nat) (t : Policy.Triple)
    (h : decideAssoc p callingRaw calledRaw identity active = .reject t) :
    runAcceptor p callingRaw calledRaw identity active ⟨false, false⟩ =
      [.requested, .sendReject t, .rejectedEvt, .shutdownSocket] := by
  unfold runAcceptor
  rw [h]
  rfl

private def demo : Policy :=
  ⟨[[0x20, 0x41, 0x42, 0x43, 0x20], [0x58]], true, [0x20, 0x53, 0x43, 0x50], 2⟩
private def abc : Bytes := [0x41, 0x42, 0x43]
private def scp : Bytes := [0x53, 0x43, 0x50]

-- every outcome and every documented triple is produced by some input
example : decideAssoc demo (abc ++ spaces 13) (scp ++ spaces 13) none 2 = .accept := by decide
example : decideAssoc demo (spaces 2 ++ abc ++ spaces 11) (spaces 13 ++ scp) none 1 = .accept := by decide
example : decideAssoc demo ([0x61, 0x62, 0x63] ++ spaces 13) (scp ++ spaces 13) none 1 = .reject (1, 1, 3) := by decide
example : decideAssoc demo ([0x61, 0x62, 0x63] ++ spaces 13) ([0x73] ++ spaces 15) none 1 = .reject (1, 1, 7) := by decide
example : decideAssoc demo (abc ++ spaces 13) (scp ++ spaces 13) (some ⟨1, false, .raises⟩) 1 = .reject (2, 2, 1) := by decide
example : decideAssoc demo (abc ++ spaces 13) (scp ++ spaces 13) (some ⟨2, false, .returns false false⟩) 1 = .reject (2, 2, 1) := by decide
example : decideAssoc demo (abc ++ spaces 13) (scp ++ spaces 13) (some ⟨2, false, .notBound⟩) 1 = .accept := by decide
example : decideAssoc demo (abc ++ spaces 13) (scp ++ spaces 13) none 3 = .reject (2, 3, 2) := by decide
example : decideAssoc demo (abc ++ List.replicate 13 0) (scp ++ spaces 13) none 1 = .invalid := by decide
example : decideAssoc demo (spaces 16) (scp ++ spaces 13) none 1 = .invalid := by decide
example : ConfigValid demo := by
  constructor
  · intro t ht
    simp only [demo, List.mem_cons, List.not_mem_nil, or_false] at ht
    rcases ht with ht | ht <;> subst ht <;> decide
  · decide
example : EdgeClean (spaces 2 ++ abc ++ spaces 11) := by unfold EdgeClean; decide
example : Eff.serviceLoop ∈ runAcceptor demo (abc ++ spaces 13) (scp ++ spaces 13) none 1 ⟨false, false⟩ := by
  decide
-- the four documented triples are legal per Table 9-21 and mean what the documentation says
example : meaning (1, 1, 3) = some (documented .calling) ∧ meaning (1, 1, 7) = some (documented .called) ∧
    meaning (2, 2, 1) = some (documented .identity) ∧ meaning (2, 3, 2) = some (documented .limit) ∧
    meaning (1, 1, 4) = none ∧ meaning (2, 3, 0) = none := by decide

end PynetVerif
