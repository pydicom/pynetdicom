import PynetVerif.Gen.Fsm
import PynetVerif.Spec.Ps38Fsm
import PynetVerif.Lemmas.Fsm
/-!
C04 — the state machine reacts to every state/event pair as PS3.8 prescribes.

`Gen.Fsm.*` is regenerated from /repo on every run: the transition table by
reflection, and `Gen.Fsm.runs` by executing the real `StateMachine.do_action`
on all 19 × 13 × 2 × 2 inputs with recording fakes.  `Spec.Ps38.*` is the hand
transcription of PS3.8 Tables 9-6 … 9-10.
-/
namespace PynetVerif
open Fsm

/-- The code's transition table is Table 9-10, entry for entry (and has no other entries). -/
theorem C04_table : Gen.Fsm.transitionTable = Spec.Ps38.table := by decide +kernel

/-- hence the action looked up for any (event, state) pair — or its absence — is the standard's -/
theorem C04_lookup (e s : Nat) : lookup Gen.Fsm.transitionTable e s = lookup Spec.Ps38.table e s := by
  rw [C04_table]

/-- The executions cover the whole input domain, in order. -/
theorem C04_domain_complete : Gen.Fsm.runs.map (·.1) = domain := by decide +kernel

theorem C04_domain_all (e s : Nat) (r a : Bool) (he : 1 ≤ e ∧ e ≤ 19) (hs : 1 ≤ s ∧ s ≤ 13) :
    (e, s, r, a) ∈ domain := by
  obtain ⟨e1, e2⟩ := he; obtain ⟨s1, s2⟩ := hs
  simp only [domain, List.mem_flatMap, List.mem_range]
  refine ⟨e - 1, by omega, s - 1, by omega, ?_⟩
  have h1 : e - 1 + 1 = e := by omega
  have h2 : s - 1 + 1 = s := by omega
  rw [h1, h2]
  cases r <;> cases a <;> simp

/-- For every input the real `do_action` — executed — does exactly what PS3.8
prescribes: not-allowed when the table has no entry, otherwise the action's
PDUs (with source/reason), indications, ARTIM operations, transport close and
next state, in the order given; pynetdicom's bookkeeping effects projected away. -/
theorem C04_effects :
    Gen.Fsm.runs.map (fun r => (r.1, r.2.project)) = domain.map (fun i => (i, Spec.Ps38.expected i)) := by
  simp only [Spec.Ps38.expected, ← lookupG_eq]
  decide +kernel

theorem C04_effects_pointwise (i : Nat × Nat × Bool × Bool) (o : Outcome) (h : (i, o) ∈ Gen.Fsm.runs) :
    o.project = Spec.Ps38.expected i := by
  have hm : (i, o.project) ∈ Gen.Fsm.runs.map (fun r => (r.1, r.2.project)) :=
    List.mem_map.mpr ⟨(i, o), h, rfl⟩
  rw [C04_effects] at hm
  obtain ⟨j, _, hj⟩ := List.mem_map.mp hm
  have h1 : j = i := congrArg Prod.fst hj
  have h2 : Spec.Ps38.expected j = o.project := congrArg Prod.snd hj
  rw [← h2, h1]

/-- The `ACTIONS` table declares for each action the next state(s) PS3.8 gives. -/
theorem C04_declared_next : ∀ p ∈ Gen.Fsm.declaredNext, p.2 = Spec.Ps38.nextStates p.1 := by decide +kernel

/-- …and the state actually reached is always one of the declared ones. -/
theorem C04_next_is_declared :
    Gen.Fsm.runs.all (fun r => match r.2 with
      | .ok _ n => (match lookup Gen.Fsm.transitionTable r.1.1 r.1.2.1 with
          | some a => (Spec.Ps38.nextStates a).contains n
          | none => false)
      | .invalid => (lookup Gen.Fsm.transitionTable r.1.1 r.1.2.1).isNone
      | .raised => false) = true := by
  simp only [← lookupG_eq]
  decide +kernel

/-- Bookkeeping that later properties rely on (C05): an action kills the
reactor, closes the transport and notifies connection-close exactly when its
next state is Sta1. -/
theorem C04_idle_iff_closed :
    Gen.Fsm.runs.all (fun r => match r.2 with
      | .ok effs n =>
          (effs.contains .kill == (n == 1)) && (effs.contains .notifyConnClose == (n == 1)) &&
          (effs.count .notifyConnClose ≤ 1) && ((n == 1) → effs.contains .close)
      | _ => true) = true := by decide +kernel

-- non-vacuity: 988 executed inputs, 123 defined pairs, and a concrete non-trivial one
example : Gen.Fsm.runs.length = 988 ∧ Gen.Fsm.transitionTable.length = 123 ∧
    ((3, 6, true, false), Outcome.ok [.sendAbort 2 0, .indPAbort 5, .artimStart] 13) ∈ Gen.Fsm.runs := by
  decide +kernel

end PynetVerif
