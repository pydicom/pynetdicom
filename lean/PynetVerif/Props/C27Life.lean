import PynetVerif.Model.Life
import PynetVerif.Gen.Life
import PynetVerif.Lemmas.Search
/-!
C27, second half — "established happens at most once and before any released / aborted
notification" — for the association-level lifecycle model (`Model/Life.lean`), for **every**
interleaving of the association thread, a user thread calling `abort()` / `release()` and the
provider thread's exception path.

The guarded model (`Cfg.guard`: the re-check of `is_aborted` that `acse.py` has, regenerated) is abstracted to its flags,
the two program counters and three bits summarising the history; the abstract states reachable under admissible
operations are found by one kernel-evaluated search (`LifeAbs.search_check`, `Lemmas/Search.lean`), and the ordering and
flag theorems read `LifeAbs.good` off the states it finds (`LifeAbs.good_run`).  The `_neg` theorems are concrete schedules: without the
re-check, and with it but outside `runOk`.
-/
namespace PynetVerif
open History Life

/-! #### `estOrder` processed from the left -/

/-- the (established seen, released/aborted seen) flags after a history -/
def estEnd : Bool → Bool → List Notif → Bool × Bool
  | e, t, [] => (e, t)
  | _, t, .established :: r => estEnd true t r
  | e, _, .released :: r => estEnd e true r
  | e, _, .aborted :: r => estEnd e true r
  | e, t, .connOpen :: r | e, t, .connClose :: r | e, t, .fsm _ _ _ :: r | e, t, .pduSent _ :: r
  | e, t, .pduRecv _ :: r | e, t, .dataSent _ :: r | e, t, .dataRecv _ :: r | e, t, .rejected :: r
  | e, t, .other :: r => estEnd e t r

def stepFlags (p : Bool × Bool) : Notif → Bool × Bool
  | .established => (true, p.2)
  | .released | .aborted => (p.1, true)
  | _ => p

def stepOk (p : Bool × Bool) : Notif → Bool
  | .established => !p.1 && !p.2
  | _ => true

theorem estEnd_append (l : List Notif) : ∀ (e t : Bool) (n : Notif),
    estEnd e t (l ++ [n]) = stepFlags (estEnd e t l) n := by
  induction l with
  | nil => intro e t n; cases n <;> rfl
  | cons x xs ih => intro e t n; cases x <;> simp [estEnd, ih]

theorem estOrder_append (l : List Notif) : ∀ (e t : Bool) (n : Notif),
    estOrder e t (l ++ [n]) = (estOrder e t l && stepOk (estEnd e t l) n) := by
  induction l with
  | nil => intro e t n; cases n <;> simp [estOrder, estEnd, stepOk]
  | cons x xs ih => intro e t n; cases x <;> simp [estOrder, estEnd, ih, Bool.and_assoc]

def E (h : List N) : Bool := (estEnd false false (h.map N.toNotif)).1
def T (h : List N) : Bool := (estEnd false false (h.map N.toNotif)).2
def K (h : List N) : Bool := estOrder false false (h.map N.toNotif)

@[simp] theorem E_nil : E [] = false := rfl
@[simp] theorem T_nil : T [] = false := rfl
@[simp] theorem K_nil : K [] = true := rfl

@[simp] theorem E_snoc (h : List N) (n : N) : E (h ++ [n]) = (E h || n.isEst) := by
  unfold E; rw [List.map_append, List.map_singleton, estEnd_append]; cases n <;> simp [stepFlags, N.toNotif, N.isEst]
@[simp] theorem T_snoc (h : List N) (n : N) : T (h ++ [n]) = (T h || n.isTerm) := by
  unfold T; rw [List.map_append, List.map_singleton, estEnd_append]; cases n <;> simp [stepFlags, N.toNotif, N.isTerm]
@[simp] theorem K_snoc (h : List N) (n : N) :
    K (h ++ [n]) = (K h && (!n.isEst || (!E h && !T h))) := by
  unfold K E T; rw [List.map_append, List.map_singleton, estOrder_append]
  cases n <;> simp [stepOk, N.toNotif, N.isEst]

def sstep (p : Bool × Bool × Bool) (n : N) : Bool × Bool × Bool :=
  match p with
  | (e, t, k) => (e || n.isEst, t || n.isTerm, k && (!n.isEst || (!e && !t)))

def summ (h : List N) : Bool × Bool × Bool := (E h, T h, K h)

theorem summ_append (out : List N) : ∀ h : List N, summ (h ++ out) = out.foldl sstep (summ h) := by
  induction out with
  | nil => intro h; simp
  | cons x xs ih =>
    intro h
    have : h ++ x :: xs = (h ++ [x]) ++ xs := by simp
    rw [this, ih, List.foldl_cons]
    simp [summ, sstep]

def noCrash : List Op → Bool
  | [] => true
  | .dulCrash :: _ => false
  | _ :: r => noCrash r

namespace LifeAbs

/-- what the ordering and flag theorems need to know of a state -/
abbrev State := Core × (Bool × Bool × Bool)

def absOf (s : St) : State := (s.core, summ s.hist)

/-- the abstract states one admissible operation leads to; `crash`: the provider's exception path
is among the operations -/
def absSuccs (c : Cfg) (crash : Bool) (x : State) : List State :=
  (allOps.filter fun op => opOk x.1 op && (crash || !op.isCrash)).map fun op =>
    ((stepK c x.1 op).1, (stepK c x.1 op).2.foldl sstep x.2)

theorem mem_allOps (op : Op) : op ∈ allOps := by
  cases op with
  | a e => cases e <;> decide
  | u e => cases e <;> decide
  | _ => decide

theorem absOf_step (c : Cfg) (crash : Bool) (s : St) (op : Op) (hok : opOk s.core op = true)
    (hc : (crash || !op.isCrash) = true) : absOf (step c s op) ∈ absSuccs c crash (absOf s) := by
  refine List.mem_map.mpr ⟨op, List.mem_filter.mpr ⟨mem_allOps op, ?_⟩, ?_⟩
  · simp only [absOf, hok, hc, Bool.and_self]
  · simp only [absOf, step, summ_append]

/-- the abstract states numbered (mixed radix: 16, 8, then nine bits), for the search's bit mask;
the fields are taken apart by one `match`, which the kernel evaluates faster than eleven projections -/
def key : State → Nat
  | (⟨est, rel, abt, rej, sent, kill, a, u⟩, e, t, k) =>
    a.ctorIdx + 16 * (u.ctorIdx + 8 * (est.toNat + 2 * (rel.toNat + 2 * (abt.toNat + 2 * (rej.toNat +
      2 * (sent.toNat + 2 * (kill.toNat + 2 * (e.toNat + 2 * (t.toNat + 2 * k.toNat)))))))))

theorem digit_inj {m a a' n n' : Nat} (ha : a < m) (ha' : a' < m) (h : a + m * n = a' + m * n') :
    a = a' ∧ n = n' := by
  have h1 := congrArg (· % m) h
  have h2 := congrArg (· / m) h
  simp only [Nat.add_mul_mod_self_left, Nat.mod_eq_of_lt ha, Nat.mod_eq_of_lt ha',
    Nat.add_mul_div_left _ _ (Nat.zero_lt_of_lt ha), Nat.div_eq_of_lt ha, Nat.div_eq_of_lt ha', Nat.zero_add] at h1 h2
  exact ⟨h1, h2⟩

theorem toNat_inj {a b : Bool} (h : a.toNat = b.toNat) : a = b := by
  cases a <;> cases b <;> first | rfl | cases h

theorem key_inj (x y : State) (h : key x = key y) : x = y := by
  obtain ⟨⟨e1, r1, b1, j1, s1, k1, a1, u1⟩, E1, T1, K1⟩ := x
  obtain ⟨⟨e2, r2, b2, j2, s2, k2, a2, u2⟩, E2, T2, K2⟩ := y
  obtain ⟨ha, h⟩ := digit_inj (by cases a1 <;> decide) (by cases a2 <;> decide) h
  obtain ⟨hu, h⟩ := digit_inj (by cases u1 <;> decide) (by cases u2 <;> decide) h
  obtain ⟨h1, h⟩ := digit_inj e1.toNat_lt e2.toNat_lt h
  obtain ⟨h2, h⟩ := digit_inj r1.toNat_lt r2.toNat_lt h
  obtain ⟨h3, h⟩ := digit_inj b1.toNat_lt b2.toNat_lt h
  obtain ⟨h4, h⟩ := digit_inj j1.toNat_lt j2.toNat_lt h
  obtain ⟨h5, h⟩ := digit_inj s1.toNat_lt s2.toNat_lt h
  obtain ⟨h6, h⟩ := digit_inj k1.toNat_lt k2.toNat_lt h
  obtain ⟨h7, h⟩ := digit_inj E1.toNat_lt E2.toNat_lt h
  obtain ⟨h8, h⟩ := digit_inj T1.toNat_lt T2.toNat_lt h
  rw [← APc.ofNat_ctorIdx a1, ha, APc.ofNat_ctorIdx, ← UPc.ofNat_ctorIdx u1, hu, UPc.ofNat_ctorIdx, toNat_inj h1, toNat_inj h2, toNat_inj h3, toNat_inj h4,
    toNat_inj h5, toNat_inj h6, toNat_inj h7, toNat_inj h8, toNat_inj h]

def seenBits : Search.Visited State Nat := .bits key key_inj

/-- `crash` says both which operations are allowed and what is checked.  With the provider's exception
path (`.dulCrash`) among them: the order of the notifications is fine.  Without it:
`is_established` excludes the other outcome flags and `_kill`, and is false once the association
thread has finished — these fail with the exception path, which sets `is_aborted` from the provider
thread while the association thread may still be about to set `is_established`. -/
def good (crash : Bool) (x : State) : Bool :=
  if crash then x.2.2.2
  else (!x.1.est || (!x.1.abt && !x.1.rel && !x.1.rej && !x.1.kill)) && (x.1.a != .done || !x.1.est)

/-- Both roles, with and without the exception path: the search from the initial state ends, and
`good` holds of all it finds (with the exception path 130 abstract states for the acceptor and 159
for the requestor, 78 and 100 without). -/
theorem search_check : ∀ acceptor crash : Bool,
    Search.check seenBits (absSuccs ⟨acceptor, true⟩ crash) 400 (absOf init) (good crash) = true := by
  decide +kernel

theorem noCrash_cons {crash : Bool} {op : Op} {rest : List Op}
    (h : crash = false → noCrash (op :: rest) = true) :
    (crash || !op.isCrash) = true ∧ (crash = false → noCrash rest = true) := by
  cases crash <;> cases op <;> simp_all [noCrash, Op.isCrash]

theorem good_run (c : Cfg) (hg : c.guard = true) (crash : Bool) (ops : List Op)
    (hok : runOk c init ops = true) (hnc : crash = false → noCrash ops = true) :
    good crash (absOf (run c init ops)) = true := by
  obtain ⟨acc, g⟩ := c
  subst hg
  obtain ⟨hi, hcl, hgood⟩ := Search.reach_spec seenBits (search_check acc crash)
  generalize Search.reach seenBits (absSuccs ⟨acc, true⟩ crash) 400 (absOf init) = R at hi hcl hgood
  refine hgood _ ?_
  generalize init = s at hi hok
  induction ops generalizing s with
  | nil => exact hi
  | cons op rest ih =>
    simp only [runOk, Bool.and_eq_true] at hok
    exact ih (noCrash_cons hnc).2 _ (hcl _ hi _ (absOf_step _ crash s op hok.1 (noCrash_cons hnc).1)) hok.2

end LifeAbs

/-- **C27 (lifecycle part, partial).** Every admissible schedule of the repaired code, either
role: ESTABLISHED at most once and before any RELEASED / ABORTED notification. -/
theorem C27_life_est_order_partial (c : Cfg) (hg : c.guard = true) (ops : List Op)
    (hok : runOk c init ops = true) :
    estOrder false false (run c init ops).notifs = true :=
  LifeAbs.good_run c hg true ops hok nofun

/-- a handler that calls `abort()` on the ACCEPTED notification, acceptor side:
REQUESTED, ACCEPTED, [handler: the four steps of `abort()`], then the establishment -/
def handlerAbortAcc : List Op :=
  [.a .tick, .a .tick, .a .accept, .uAbort, .u .tick, .u .tick, .u .tick, .a .tick, .a .tick, .a .tick]
/-- the same on the requestor side -/
def handlerAbortReq : List Op :=
  [.a .tick, .a .tick, .a .accept, .uAbort, .u .tick, .u .tick, .u .tick, .a .tick, .a .tick, .a .tick]

/-- Without the re-check the handler-made abort is followed by ESTABLISHED (both roles), on a
schedule that satisfies `runOk`. -/
theorem C27_life_unguarded_neg :
    (runOk ⟨true, false⟩ init handlerAbortAcc = true ∧
      (run ⟨true, false⟩ init handlerAbortAcc).hist = [.requested, .accepted, .aborted, .established] ∧
      estOrder false false (run ⟨true, false⟩ init handlerAbortAcc).notifs = false) ∧
    (runOk ⟨false, false⟩ init handlerAbortReq = true ∧
      (run ⟨false, false⟩ init handlerAbortReq).hist = [.requested, .accepted, .aborted, .established] ∧
      estOrder false false (run ⟨false, false⟩ init handlerAbortReq).notifs = false) := by
  decide

/-- the same schedules on the repaired code: no ESTABLISHED -/
theorem C27_life_guarded_handler_abort :
    (run ⟨true, true⟩ init handlerAbortAcc).hist = [.requested, .accepted, .aborted] ∧
    (run ⟨false, true⟩ init handlerAbortReq).hist = [.requested, .accepted, .aborted] ∧
    (run ⟨true, true⟩ init handlerAbortAcc).core.est = false := by
  decide

/-- another thread enters `abort()` after the re-check: -/
def windowAbort : List Op :=
  [.a .tick, .a .tick, .a .accept, .a .tick, .uAbort, .u .tick, .u .tick, .u .tick, .a .tick, .a .tick]

/-- `runOk` cannot be dropped: with the re-check in place, an `abort()` from another thread between
the re-check and the notification still puts ABORTED before ESTABLISHED. -/
theorem C27_life_window_neg :
    runOk ⟨true, true⟩ init windowAbort = false ∧
    (run ⟨true, true⟩ init windowAbort).hist = [.requested, .accepted, .aborted, .established] ∧
    estOrder false false (run ⟨true, true⟩ init windowAbort).notifs = false := by
  decide

example : runOk ⟨true, true⟩ init [.a .tick, .a .tick, .a .accept, .a .tick, .a .tick, .a .tick, .a .tick,
      .a .tick, .uRelease, .u .accept] = true ∧
    (run ⟨true, true⟩ init [.a .tick, .a .tick, .a .accept, .a .tick, .a .tick, .a .tick, .a .tick,
      .a .tick, .uRelease, .u .accept]).hist = [.requested, .accepted, .established, .released] := by
  decide

example : runOk ⟨false, true⟩ init [.a .tick, .a .tick, .a .accept, .a .tick, .a .tick, .a .tick, .a .tick,
      .uAbort, .a .peerAbort, .u .tick, .u .tick, .u .tick] = true ∧
    (run ⟨false, true⟩ init [.a .tick, .a .tick, .a .accept, .a .tick, .a .tick, .a .tick, .a .tick,
      .uAbort, .a .peerAbort, .u .tick, .u .tick, .u .tick]).hist =
      [.requested, .accepted, .established, .aborted, .aborted] := by
  decide

/-- **C27 (flags).** On every admissible schedule without the provider's exception path:
`is_established` is never true together with `is_aborted`, `is_released` or `is_rejected`. -/
theorem C27_life_flags (c : Cfg) (hg : c.guard = true) (ops : List Op)
    (hok : runOk c init ops = true) (hnc : noCrash ops = true) :
    (run c init ops).core.est = true →
      (run c init ops).core.abt = false ∧ (run c init ops).core.rel = false ∧
      (run c init ops).core.rej = false := by
  have h := LifeAbs.good_run c hg false ops hok fun _ => hnc
  intro he
  simp only [LifeAbs.good, LifeAbs.absOf, he, Bool.false_eq_true, if_false, Bool.not_true, Bool.false_or, Bool.and_eq_true,
    Bool.not_eq_true'] at h
  exact ⟨h.1.1.1.1, h.1.1.1.2, h.1.1.2⟩

/-- On the same schedules: once the association thread has finished, `is_established` is false
(no association is left "established" with nobody serving it), and an established association
has not been told to stop. -/
theorem C27_life_done_not_established (c : Cfg) (hg : c.guard = true) (ops : List Op)
    (hok : runOk c init ops = true) (hnc : noCrash ops = true) :
    ((run c init ops).core.a = .done → (run c init ops).core.est = false) ∧
    ((run c init ops).core.est = true → (run c init ops).core.kill = false) := by
  have h := LifeAbs.good_run c hg false ops hok fun _ => hnc
  simp only [LifeAbs.good, LifeAbs.absOf, Bool.false_eq_true, if_false, Bool.and_eq_true, Bool.or_eq_true,
    Bool.not_eq_true', bne_iff_ne, ne_eq] at h
  constructor
  · intro ha; simpa [ha] using h.2
  · intro he; exact ((h.1.resolve_left (by simp [he])).2)

/-- before the repair both flags were true at once after a handler-made abort -/
theorem C27_life_flags_unguarded_neg :
    (run ⟨true, false⟩ init handlerAbortAcc).core.est = true ∧
    (run ⟨true, false⟩ init handlerAbortAcc).core.abt = true := by
  decide

/-- The source has the shape the model was written from: both establishments re-check
`is_aborted` after the ACCEPTED notification and are followed at once by the ESTABLISHED
notification; nothing else sets `is_established` or triggers ESTABLISHED; `abort()` checks, marks,
sends (which sets the flags), notifies, kills - in that order; the acceptor negotiates after the
REQUESTED notification only if neither aborted nor rejected; the reactor answers a release request
only while established and `release()` does nothing unless established. -/
theorem C27_life_code :
    Gen.Life.acceptorGuard = true ∧ Gen.Life.requestorGuard = true ∧ Gen.Life.emitFollowsSet = true ∧
    Gen.Life.establishSites = [("acse", "_negotiate_as_acceptor"), ("acse", "_negotiate_as_requestor")] ∧
    Gen.Life.establishedTriggers = [("acse", "_negotiate_as_acceptor"), ("acse", "_negotiate_as_requestor")] ∧
    Gen.Life.abortShape =
      ["ifSent:return", "ifDone:return", "setSent", "sendAbort", "emitAborted", "ifNonBlocking:return", "kill"] ∧
    Gen.Life.sendAbortSetsFlags = true ∧
    Gen.Life.afterRequestedTest = "not self.is_aborted and (not self.is_rejected)" ∧
    Gen.Life.noContextBranch =
      ["self.send_abort(2)", "self.assoc.is_aborted = True", "self.assoc.is_established = False",
       "evt.trigger(self.assoc, evt.EVT_ABORTED, {})", "self.assoc.kill()"] ∧
    Gen.Life.reactorReleaseTest = "self.is_established and self.acse.is_release_requested()" ∧
    Gen.Life.releaseTest = "self.is_established" :=
  ⟨rfl, rfl, rfl, rfl, rfl, rfl, rfl, rfl, rfl, rfl, rfl⟩

/-- the configuration the regenerated facts describe -/
def codeCfg (acceptor : Bool) : Cfg :=
  ⟨acceptor, if acceptor then Gen.Life.acceptorGuard else Gen.Life.requestorGuard⟩

/-- **C27 (lifecycle part) for the code as it is now**: either role, every admissible schedule. -/
theorem C27_life_est_order_code (acceptor : Bool) (ops : List Op)
    (hok : runOk (codeCfg acceptor) init ops = true) :
    estOrder false false (run (codeCfg acceptor) init ops).notifs = true := by
  refine C27_life_est_order_partial (codeCfg acceptor) ?_ ops hok
  cases acceptor
  · exact C27_life_code.2.1
  · exact C27_life_code.1

end PynetVerif
