import PynetVerif.Model.Release
import PynetVerif.Gen.Release
/-!
C07 — a peer's release request is always answered with a release response.

partial: the theorem is about the acceptor's control logic (handler loop, SCP tail, reactor release
branch); the real threads, queues and sockets are exercised by the check (a real acceptor, a peer
that injects A-RELEASE-RQ at a generated point of a C-FIND / C-GET) but not modelled.
-/
namespace PynetVerif
open Release

theorem loop_stopped_fix (arrival : Nat) (pc : Bool) (n i : Nat) (s : St) (h : s.stopped = true) :
    loop arrival pc n i s = s := by
  induction n generalizing i with
  | zero => rfl
  | succ n ih => simp only [loop, iter, h, if_true, ih]

theorem loop_closed (arrival : Nat) (pc : Bool) (n i y : Nat) (h : i ≤ arrival) :
    loop arrival pc n i { queued := false, yields := y, stopped := false } =
      if arrival < i + n then { queued := !pc, yields := y + (arrival - i), stopped := true }
      else { queued := false, yields := y + n, stopped := false } := by
  induction n generalizing i y with
  | zero => simp [loop]; omega
  | succ n ih =>
    simp only [loop, iter, Bool.false_eq_true, if_false]
    by_cases ha : arrival = i
    · subst ha
      simp [loop_stopped_fix]
    · simp only [ha, if_false, Bool.false_eq_true, ih (i + 1) (y + 1) (by omega)]
      by_cases hb : arrival < i + 1 + n
      · rw [if_pos hb, if_pos (by omega)]
        congr 1
        omega
      · rw [if_neg hb, if_neg (by omega)]
        congr 1
        omega

theorem serve_eq (n arrival : Nat) (pc : Bool) :
    serve n arrival pc =
      ⟨min arrival n, true, decide (n ≤ arrival) || !pc, decide (n ≤ arrival) || !pc⟩ := by
  unfold serve
  rw [loop_closed arrival pc n 0 0 (Nat.zero_le _)]
  by_cases h : arrival < n
  · have : ¬ n ≤ arrival := by omega
    simp [h, this]
    omega
  · have : n ≤ arrival := by omega
    simp [h, this]

/-- **Every arrival point is answered** (current code: the handler loop only peeks): wherever the
peer's A-RELEASE-RQ arrives — before, between or after any of the handler's `n` yields, or while
idle — the acceptor sends A-RELEASE-RP and ends released; the results produced before the arrival
were sent as Pending responses and the operation got its final response. -/
theorem C07_answered (n arrival : Nat) :
    (serve n arrival false).rpSent = true ∧ (serve n arrival false).released = true ∧
    (serve n arrival false).finalSent = true ∧ (serve n arrival false).pending = min arrival n := by
  simp [serve_eq]

/-- the repaired defect, for the record: when the loop's check consumed the indication, a release
request arriving during the handler's iteration was never answered -/
theorem C07_consuming_peek_neg (n arrival : Nat) (h : arrival < n) :
    (serve n arrival true).rpSent = false ∧ (serve n arrival true).released = false := by
  simp [serve_eq]
  omega

/-- the source still only peeks: `_wrap_handler` calls `is_release_requested(consume=False)` and the
reactor's release branch calls the consuming form — and it is the only function in the package
that does: whoever else takes the indication off the queue (a timeout path, say) leaves the request
unanswered (regenerated from the source on every run) -/
theorem C07_code_peeks : Gen.Release.wrapHandlerConsumes = false ∧ Gen.Release.reactorConsumes = true ∧
    Gen.Release.defaultConsume = true ∧ Gen.Release.otherConsumers = [] := by decide

example : serve 5 2 false = ⟨2, true, true, true⟩ ∧ serve 5 9 false = ⟨5, true, true, true⟩ ∧
    serve 5 2 true = ⟨2, true, false, false⟩ := by decide

end PynetVerif
