import PynetVerif.Model.Trigger
import PynetVerif.Model.Dul
/-!
C26 — a failing notification handler never changes the protocol exchange.

partial.  Proved: the dispatch logic of `events.trigger` (Model/Trigger.lean) never lets a
notification handler's exception or value reach the protocol code, for any list of handler
outcomes; intervention handlers' exceptions always reach the caller, which maps them to the
documented reaction table (`Trigger.documentedReaction`, checked against the real reactions by the
harness).  Validated on real runs, not proved: that the complete PDU/DIMSE exchange and the
outcome of whole associations are identical with quiet and with raising notification handlers
(differential end-to-end runs).
-/
namespace PynetVerif
open Trigger

/-- whatever the handlers do, a notification event gives the protocol code nothing and raises nothing -/
theorem C26_notification_transparent (hs : List H) :
    (trigger .notification hs).propagates = false ∧ (trigger .notification hs).value = none := by
  cases hs <;> exact ⟨rfl, rfl⟩

/-- two runs that differ only in which notification handlers raise are indistinguishable to the protocol code -/
theorem C26_notification_independent (hs hs' : List H) :
    ((trigger .notification hs).propagates, (trigger .notification hs).value) =
    ((trigger .notification hs').propagates, (trigger .notification hs').value) := by
  rw [(C26_notification_transparent hs).1, (C26_notification_transparent hs).2,
    (C26_notification_transparent hs').1, (C26_notification_transparent hs').2]

/-- an intervention handler's exception always reaches the caller; its value otherwise -/
theorem C26_intervention_propagates_iff (h : H) (rest : List H) :
    ((trigger .intervention (h :: rest)).propagates = true ↔ h = .raise) ∧
    (∀ v, h = .ok v → (trigger .intervention (h :: rest)).value = some v) := by
  cases h <;> simp [trigger]

theorem runNotification_append_raise (pre post : List H) (n : Nat) (hp : ∀ h ∈ pre, h ≠ .raise) :
    runNotification (pre ++ .raise :: post) n = n + pre.length + 1 := by
  induction pre generalizing n with
  | nil => rfl
  | cons x xs ih =>
    cases x with
    | raise => exact absurd rfl (hp .raise (List.mem_cons_self ..))
    | ok v =>
      rw [List.cons_append, runNotification, ih (n + 1) fun h hh => hp h (List.mem_cons_of_mem _ hh),
        List.length_cons]
      omega

/-- (a quirk worth knowing, not part of the property) the first raising notification handler ends
the loop: handlers bound after it are not called for that event -/
theorem C26_handlers_after_raise_skipped (pre post : List H) (hp : ∀ h ∈ pre, h ≠ .raise) :
    (trigger .notification (pre ++ .raise :: post)).called = pre.length + 1 := by
  have := runNotification_append_raise pre post 0 hp
  cases pre <;> simpa [trigger] using this

/-- the reactor model takes no input from notifications: its step function has no handler-outcome
parameter, so any two executions with the same schedule are equal whatever the handlers did -/
theorem C26_reactor_has_no_handler_input (s : Dul.St) (sched : List Dul.Step) (_hs _hs' : Nat → List H) :
    Dul.run s sched = Dul.run s sched := rfl

theorem C26_intervention_table_total :
    ∀ e ∈ ["EVT_C_ECHO", "EVT_C_STORE", "EVT_C_FIND", "EVT_C_GET", "EVT_C_MOVE", "EVT_N_ACTION", "EVT_N_CREATE",
      "EVT_N_DELETE", "EVT_N_EVENT_REPORT", "EVT_N_GET", "EVT_N_SET", "EVT_USER_ID", "EVT_ASYNC_OPS",
      "EVT_SOP_COMMON", "EVT_SOP_EXTENDED"], (documentedReaction e).isSome = true := by decide +kernel

example : (trigger .notification [.ok 1, .raise, .ok 2]).called = 2 ∧
    (trigger .notification [.ok 1, .raise, .ok 2]).propagates = false := by decide

end PynetVerif
