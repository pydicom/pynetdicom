import PynetVerif.Model.Conform
import PynetVerif.Gen.Glue
import PynetVerif.Lemmas.Strip
import PynetVerif.Lemmas.Lists
/-!
C12 — association requests and responses pynetdicom sends are structurally conformant.

`Conform.buildRQ` is the model of `AE.associate` + `ServiceUser` + `A_ASSOCIATE_RQ.from_primitive`
as an item tree, `Conform.acceptedByApi` the model of the API's own validation,
`Conform.conformantRQ/AC` the property.  The tree ↔ bytes codec is C01's.  The wire tap of
`harness/props/c12.py` compares the real PDUs (parsed by an independent TLV walker) with
`buildRQ`/`buildAC` and evaluates the conformance predicates on them.
-/
namespace PynetVerif
open Conform

theorem ids_length (n : Nat) : (ids n).length = n := by simp [ids]

theorem mem_ids {n x : Nat} : x ∈ ids n ↔ ∃ i, i < n ∧ x = 2 * i + 1 := by
  simp [ids, eq_comm]

theorem ids_nodup (n : Nat) : (ids n).Nodup := by
  unfold ids
  apply List.Pairwise.imp (R := fun a b => a < b)
  · intro a b h; exact Nat.ne_of_lt h
  · rw [List.pairwise_map]
    exact List.Pairwise.imp (fun h => by omega) List.pairwise_lt_range

/-- The ids `associate()` assigns to `n ≤ 128` requested contexts are 1, 3, …, 2n−1 in order:
distinct, odd and within 1–255 (with n = 128 the last id is exactly 255). -/
theorem C12_ids (n : Nat) (h : n ≤ 128) :
    (ids n).length = n ∧ (∀ i, i < n → (ids n)[i]? = some (2 * i + 1)) ∧ (ids n).Nodup ∧
      ∀ x ∈ ids n, x % 2 = 1 ∧ 1 ≤ x ∧ x ≤ 255 := by
  refine ⟨ids_length n, ?_, ids_nodup n, ?_⟩
  · intro i hi
    simp [ids, hi]
  · intro x hx
    obtain ⟨i, hi, rfl⟩ := mem_ids.mp hx
    omega

/-- … and the bound of 128 contexts is exactly what keeps them within one byte: the 129th id
would be 257. -/
theorem C12_ids_limit : (ids 128).getLast? = some 255 ∧ (ids 129).getLast? = some 257 := by
  decide

theorem pcsOf_ids (cs : List Ctx) : (pcsOf cs).map (·.id) = ids cs.length := by
  unfold pcsOf
  rw [List.map_map]
  have : ((fun p : Pc => p.id) ∘ fun (x : Nat × Ctx) => (⟨x.1, 0, [x.2.abstract], x.2.transfer⟩ : Pc)) = Prod.fst := by
    funext x; rfl
  rw [this]
  exact List.map_fst_zip (by simp [ids_length])

theorem pcsOf_length (cs : List Ctx) : (pcsOf cs).length = cs.length := by
  simp [pcsOf, List.length_zip, ids_length]

theorem mem_pcsOf {cs : List Ctx} {p : Pc} (h : p ∈ pcsOf cs) :
    ∃ c ∈ cs, p.abstract = [c.abstract] ∧ p.transfer = c.transfer ∧ p.result = 0 := by
  unfold pcsOf at h
  rw [List.mem_map] at h
  obtain ⟨⟨i, c⟩, hm, rfl⟩ := h
  exact ⟨c, (List.of_mem_zip hm).2, rfl, rfl, rfl⟩

theorem mem_extSubs {es : List Ext} {x : Sub} (h : x ∈ extSubs es) : ∃ e ∈ es, x = e.toSub := by
  unfold extSubs at h
  rw [List.mem_map] at h
  obtain ⟨e, he, rfl⟩ := h
  refine ⟨e, ?_, rfl⟩
  simp only [List.mem_append, List.mem_filter] at he
  rcases he with (((h | h) | h) | h) | h <;> exact h.1

theorem countP_extSubs (es : List Ext) : (extSubs es).countP isMaxLength = 0 ∧ (extSubs es).countP isImplUid = 0 := by
  simp only [List.countP_eq_zero]
  constructor <;>
  · intro x hx
    obtain ⟨e, _, rfl⟩ := mem_extSubs hx
    cases e <;> simp [Ext.toSub, isMaxLength, isImplUid]

theorem userOk_userInfo (m : Nat) (u : Str) (v : Option Str) (es : List Ext) :
    userOk [userInfo m u v es] = true := by
  unfold userOk userInfo
  simp only [List.countP_append, countP_extSubs]
  cases v <;> simp [List.countP_cons, isMaxLength, isImplUid]

theorem legalTitleField_pad16 (t : Str) (h : titleAccepted t = true) :
    legalTitleField (pad16 t) = true := by
  unfold titleAccepted at h
  simp only [Bool.and_eq_true, Bool.not_eq_true', List.isEmpty_eq_false_iff] at h
  obtain ⟨hne, hv⟩ := h
  unfold Policy.validAE at hv
  simp only [Bool.and_eq_true, Bool.not_eq_true', decide_eq_true_eq, List.all_eq_true,
    List.any_eq_false, List.contains_eq_mem, decide_eq_false_iff_not] at hv
  obtain ⟨⟨⟨hlen, hascii⟩, hctl⟩, hbs⟩ := hv
  have hchar : ∀ x ∈ t, legalAEChar x = true := by
    intro x hx
    have h1 := hascii x hx
    have h2 := hctl x hx
    have h3 : x ≠ 0x5c := fun e => hbs (e ▸ hx)
    unfold Policy.isControl at h2
    unfold legalAEChar
    simp only [Bool.or_eq_true, decide_eq_true_eq, beq_iff_eq, not_or, UInt8.not_lt] at h2
    simp only [Bool.and_eq_true, decide_eq_true_eq, bne_iff_ne, ne_eq]
    refine ⟨⟨h2.1, ?_⟩, h3⟩
    have hlt : x < 0x80 := h1
    rw [UInt8.le_iff_toNat_le]
    rw [UInt8.lt_iff_toNat_lt] at hlt
    have hne7f : x.toNat ≠ 0x7f := fun e => h2.2 (UInt8.toNat_inj.mp (by simpa using e))
    simp at hlt ⊢
    omega
  unfold legalTitleField pad16
  simp only [Bool.and_eq_true, beq_iff_eq, List.length_append, List.length_replicate,
    List.all_append, List.all_replicate, Bool.not_eq_true', List.all_eq_true]
  refine ⟨⟨by omega, ⟨hchar, ?_⟩⟩, ?_⟩
  · simp [legalAEChar]
  · -- not entirely spaces: otherwise str.strip() would have left nothing
    rw [Bool.eq_false_iff]
    intro hall
    simp only [Bool.and_eq_true, List.all_eq_true, beq_iff_eq] at hall
    apply hne
    have : t.all Policy.isPyWs = true := by
      rw [List.all_eq_true]
      intro x hx
      rw [hall.1 x hx]; decide
    show Policy.strip Policy.isPyWs t = []
    unfold Policy.strip Policy.lstrip
    rw [Policy.dropWhile_all t this]
    rfl

/-- Everything structural holds for every configuration the API accepts: 1–128 contexts with
the ids of `C12_ids`, one abstract and ≥ 1 transfer syntax each, exactly one application
context item, exactly one user-information item with exactly one maximum-length and one
implementation-class-UID sub-item — and both title fields are legal and not blank. -/
theorem C12_rq_structure (c : Cfg) (h : acceptedByApi c = true) :
    structureRQ (buildRQ c) = true ∧ legalTitleField (buildRQ c).called = true ∧
      legalTitleField (buildRQ c).calling = true := by
  unfold acceptedByApi at h
  simp only [Bool.and_eq_true, decide_eq_true_eq] at h
  obtain ⟨⟨⟨⟨⟨⟨⟨⟨hcg, hcd⟩, hn1⟩, hn2⟩, hctx⟩, _hmax⟩, _himpl⟩, _hver⟩, _hext⟩ := h
  refine ⟨?_, legalTitleField_pad16 _ hcd, legalTitleField_pad16 _ hcg⟩
  unfold structureRQ buildRQ
  simp only [Bool.and_eq_true, decide_eq_true_eq, pcsOf_length, pcsOf_ids, List.length_singleton,
    beq_self_eq_true, userOk_userInfo, and_true]
  refine ⟨⟨⟨⟨hn1, hn2⟩, ?_⟩, ids_nodup _⟩, ?_⟩
  · rw [List.all_eq_true]
    intro x hx
    obtain ⟨h1, h2, h3⟩ := (C12_ids c.contexts.length hn2).2.2.2 x hx
    simp [idOk, h1, h2, h3]
  · rw [List.all_eq_true]
    intro p hp
    obtain ⟨cx, hcx, ha, ht, _⟩ := mem_pcsOf hp
    have := List.all_eq_true.mp hctx cx hcx
    simp only [ctxAccepted, Bool.and_eq_true, Bool.not_eq_true', List.isEmpty_eq_false_iff] at this
    simpa [ha, ht, Nat.succ_le_iff, List.length_pos_iff] using this.1.2

/-- The full property for requests: if, in addition, the UIDs handed to the API are conformant
(the API itself only checks "1–64 characters" unless `ENFORCE_UID_CONFORMANCE` is set), the
A-ASSOCIATE-RQ put on the wire is conformant. -/
theorem C12_rq_conformant_partial (c : Cfg) (h : acceptedByApi c = true) (hu : uidsLegal c = true) :
    conformantRQ (buildRQ c) = true := by
  obtain ⟨hs, hcd, hcg⟩ := C12_rq_structure c h
  unfold conformantRQ
  rw [hs, Bool.true_and]
  unfold valuesOk
  rw [hcd, hcg]
  unfold acceptedByApi at h
  simp only [Bool.and_eq_true, decide_eq_true_eq] at h
  obtain ⟨⟨⟨_, himpl⟩, _⟩, _⟩ := h
  unfold uidsLegal at hu
  simp only [Bool.and_eq_true] at hu
  obtain ⟨hcx, hext⟩ := hu
  simp only [Bool.true_and, Bool.and_eq_true]
  refine ⟨⟨?_, ?_⟩, ?_⟩
  · simp only [buildRQ, List.all_cons, List.all_nil, Bool.and_true]; decide
  · rw [List.all_eq_true]
    intro p hp
    obtain ⟨cx, hcx', ha, ht, _⟩ := mem_pcsOf hp
    have := List.all_eq_true.mp hcx cx hcx'
    simp only [Bool.and_eq_true] at this
    rw [ha, ht]
    simp [this.1, this.2]
  · simp only [buildRQ, List.all_cons, List.all_nil, Bool.and_true]
    rw [List.all_eq_true]
    intro x hx
    unfold userInfo at hx
    simp only [List.mem_append, List.mem_cons, List.not_mem_nil, or_false] at hx
    rcases hx with ((hx | hx) | hx) | hx
    · subst hx; rfl
    · subst hx; exact himpl
    · cases hv : c.implVersion with
      | none => rw [hv] at hx; simp at hx
      | some v => rw [hv] at hx; simp at hx; subst hx; rfl
    · obtain ⟨e, he, rfl⟩ := mem_extSubs hx
      have := List.all_eq_true.mp hext e he
      cases e <;> simp only [Ext.toSub, subUidsLegal, extUidsLegal] at this ⊢ <;> exact this

/-- Without that hypothesis the statement is false for the code: `associate()` accepts the
abstract syntax "1.2.03" (leading zero in a component) and puts it on the wire. -/
theorem C12_rq_conformant_neg :
    ∃ c : Cfg, acceptedByApi c = true ∧ conformantRQ (buildRQ c) = false := by
  refine ⟨⟨[0x41], [0x42], [⟨[0x31, 0x2e, 0x32, 0x2e, 0x30, 0x33], [[0x31, 0x2e, 0x32]]⟩], 16382,
    [0x31, 0x2e, 0x32], none, []⟩, ?_, ?_⟩ <;> decide

theorem dictOf_nodup (l : List Pc) (h : (l.map (·.id)).Nodup) : dictOf l = l := by
  have hstep : ∀ (d : List Pc) (r : Pc), r.id ∉ d.map (·.id) → dictInsert d r = d ++ [r] := fun d r hr => by
    have : d.any (fun x => x.id == r.id) = false := by
      simpa using fun (x : Pc) hx (e : x.id = r.id) => hr (e ▸ List.mem_map_of_mem hx)
    rw [dictInsert, this, if_neg Bool.false_ne_true]
  simpa [dictOf] using foldl_fresh_keys (·.id) hstep (l := l) (acc := []) (by simpa using h)

theorem insertPc_perm (p : Pc) (l : List Pc) : (insertPc p l).Perm (p :: l) :=
  insert_perm (ins := insertPc) (fun _ => rfl) (fun x y ys => by simp only [insertPc]; split <;> simp) p l

theorem sortById_perm (l : List Pc) : (sortById l).Perm l :=
  sort_insert_perm insertPc_perm rfl (fun _ _ => rfl) l

theorem resultItems_perm (res : List Pc) (h : (res.map (·.id)).Nodup) : (resultItems res).Perm res := by
  unfold resultItems
  rw [dictOf_nodup _ (List.Sublist.nodup (List.Sublist.map _ List.filter_sublist) h)]
  have h1 := sortById_perm (res.filter (·.result == 0))
  have h2 : (res.filter (·.result == 0) ++ res.filter (·.result != 0)).Perm res := by
    have := List.filter_append_perm (fun p : Pc => p.result == 0) res
    simpa [bne] using this
  exact (List.Perm.append h1 (List.Perm.refl _)).trans h2

/-- The A-ASSOCIATE-AC: given the facts property C10 establishes about the negotiation result
(`h1`: one result per proposed id, in some order; `h2`: an accepted result carries exactly one,
legal, transfer syntax), titles of the request primitive that passed `set_ae` (`ht1`, `ht2`: the
primitive's setters guarantee it) and an acceptor user-information list with one maximum length
and one implementation class UID, the PDU `send_accept` assembles has exactly one result item per
proposed context and a transfer syntax on every accepted item.  Needs the proposed ids to be
distinct (`hn`), which holds for every request pynetdicom itself sends (`C12_rq_structure`). -/
theorem C12_ac_conformant_partial (rq : Assoc) (calledT callingT : Str) (res : List Pc) (user : List Sub)
    (ht1 : titleAccepted calledT = true) (ht2 : titleAccepted callingT = true)
    (hn : (rq.pcs.map (·.id)).Nodup)
    (h1 : (res.map (·.id)).Perm (rq.pcs.map (·.id)))
    (h2 : ∀ r ∈ res, r.result = 0 → r.transfer.length = 1 ∧ r.transfer.all legalUid = true)
    (hu : userOk [user] = true) (hv : user.all subUidsLegal = true) :
    conformantAC rq (buildAC calledT callingT res user) = true := by
  have hnr : (res.map (·.id)).Nodup := (List.Perm.nodup_iff h1).mpr hn
  have hp := resultItems_perm res hnr
  unfold conformantAC buildAC
  simp only [Bool.and_eq_true, decide_eq_true_eq, List.length_singleton, beq_self_eq_true,
    List.all_cons, List.all_nil, Bool.and_true, hu, hv, legalTitleField_pad16 _ ht1,
    legalTitleField_pad16 _ ht2, true_and]
  refine ⟨⟨(List.Perm.map _ hp).trans h1, ?_⟩, by decide⟩
  rw [List.all_eq_true]
  intro p hpm
  have hpr : p ∈ res := (List.Perm.mem_iff hp).mp hpm
  by_cases hr : p.result = 0
  · obtain ⟨a, b⟩ := h2 p hpr hr
    simp [a, b]
  · simp [hr]

/-- Without `hn` it fails for the code: two proposed contexts with the same id 1, both
acceptable, are answered with ONE result item (`_accepted_cx` is keyed by context id). -/
theorem C12_ac_conformant_neg :
    ∃ (rq : Assoc) (res : List Pc) (user : List Sub),
      (res.map (·.id)).Perm (rq.pcs.map (·.id)) ∧
      (∀ r ∈ res, r.result = 0 → r.transfer.length = 1 ∧ r.transfer.all legalUid = true) ∧
      userOk [user] = true ∧ conformantAC rq (buildAC [0x41] [0x42] res user) = false := by
  let ts : Str := [0x31, 0x2e, 0x32]
  refine ⟨⟨pad16 [0x41], pad16 [0x42], [applicationContextName],
      [⟨1, 0, [[0x31, 0x2e, 0x33]], [ts]⟩, ⟨1, 0, [[0x31, 0x2e, 0x34]], [ts]⟩], []⟩,
    [⟨1, 0, [], [ts]⟩, ⟨1, 0, [], [ts]⟩], [.maxLength 16382, .implUid ts], ?_, ?_, ?_, ?_⟩
  · exact List.Perm.refl _
  · intro r hr _
    simp only [List.mem_cons, List.not_mem_nil, or_false] at hr
    rcases hr with rfl | rfl <;> exact ⟨rfl, by decide⟩
  · decide
  · decide

/-- requests pynetdicom sends always satisfy `hn` -/
theorem C12_rq_ids_distinct (c : Cfg) : ((buildRQ c).pcs.map (·.id)).Nodup := by
  simp only [buildRQ, pcsOf_ids]
  exact ids_nodup _

private def ct : Str := [0x31, 0x2e, 0x32, 0x2e, 0x38, 0x34, 0x30]     -- "1.2.840"
private def demo : Cfg :=
  ⟨[0x53, 0x43, 0x55], [0x20, 0x41, 0x20], [⟨ct, [ct, [0x31, 0x2e, 0x32]]⟩, ⟨ct, [ct]⟩], 0, ct, some [0x56],
    [.sopCommon ct ct [ct], .userId 2 true, .role ct true false, .async 3 1, .sopExt ct [1, 2]]⟩

example : acceptedByApi demo = true ∧ uidsLegal demo = true := by decide
example : conformantRQ (buildRQ demo) = true := by decide
example : (buildRQ demo).user = [[.maxLength 0, .implUid ct, .implVersion [0x56], .role ct true false,
    .async 3 1, .userId 2 true, .sopExt ct [1, 2], .sopCommon ct ct [ct]]] := by decide
example : (buildRQ demo).pcs.map (·.id) = [1, 3] := by decide
-- 128 contexts are accepted and conformant, 129 are refused by the API
example : acceptedByApi { demo with contexts := List.replicate 128 ⟨ct, [ct]⟩ } = true := by decide +kernel
example : acceptedByApi { demo with contexts := List.replicate 129 ⟨ct, [ct]⟩ } = false := by decide +kernel
example : conformantRQ (buildRQ { demo with contexts := List.replicate 128 ⟨ct, [ct]⟩ }) = true :=
  C12_rq_conformant_partial _ (by decide +kernel) (by decide +kernel)
example : acceptedByApi { demo with contexts := [⟨ct, []⟩] } = false := by decide
example : acceptedByApi { demo with calling := [0x20, 0x20] } = false := by decide
example : legalUid [0x31, 0x2e, 0x30, 0x2e, 0x32] = true ∧ legalUid [0x31, 0x2e, 0x30, 0x32] = false ∧
    legalUid [0x31, 0x2e] = false ∧ legalUid [0x61] = false ∧ legalUid [] = false := by decide
-- an AC with accepted-first ordering is conformant for the request it answers
example : conformantAC (buildRQ demo)
    (buildAC [0x41] demo.calling [⟨1, 3, [], [ct]⟩, ⟨3, 0, [], [ct]⟩] [.maxLength 16382, .implUid ct]) = true := by
  decide
example : (buildAC [0x41] [0x42] [⟨1, 3, [], [ct]⟩, ⟨3, 0, [], [ct]⟩] []).pcs.map (·.id) = [3, 1] := by decide
-- the called title " A " of `demo` comes back as "A" + 15 spaces: not the bytes of the request's field
example : (buildAC [0x41] [0x42] [] []).called ≠ (buildRQ demo).called := by decide

/-- the hypotheses under which `C12_ids` describes `AE.associate`: every requested context is copied on its own,
the list that will be used (keyword or the AE's own) is validated unconditionally, and every copy is numbered
`2 * ii + 1` whatever id it arrived with (syntax facts regenerated from ae.py on every run) -/
theorem C12_associate_glue_is_code :
    Gen.Glue.copiedPerItem = true ∧ Gen.Glue.allValidated = true ∧ Gen.Glue.idsRenumbered = true := by decide

end PynetVerif
