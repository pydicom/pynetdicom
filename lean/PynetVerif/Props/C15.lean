import PynetVerif.Gen.Dimse
import PynetVerif.Lemmas.Dimse
/-!
C15 — DIMSE fragmentation respects the peer's maximum length and reassembles
exactly.

All theorems are about `Dimse.encodeMsgFull` / `Dimse.encodeMsg` (the model of
`DIMSEMessage.encode_msg`, in-memory and file-backed) and `Dimse.decodeMsg`
(`decode_msg` fed with a list of P-DATA primitives), for arbitrary byte lists,
every maximum `max = 0 ∨ 7 ≤ max`, a non-empty command set (a command set
produced by `primitive_to_message` always holds CommandGroupLength,
CommandField and CommandDataSetType; what the code does for an empty one is
`C15_empty_command_raises`) and, for file-backed data sets, an offset that is a
position in the file (`Msg.pathOk`; `send_c_store` takes it from
`split_dataset`; `C15_offset_past_end_raises` says what happens otherwise).
The model is tied to the code by the differential run of `harness/props/c15.py`.

The PDV list of a P-DATA-TF PDU that carries one PDV with fragment `f` is
`item-length (4) ‖ context-id (1) ‖ control header (1) ‖ f`, i.e. `6 + |f|`
bytes (`PresentationDataValueItem._encoders`, `P_DATA_TF.pdu_length`);
`encode_msg` puts exactly one PDV in each P-DATA primitive.
-/
namespace PynetVerif
open Dimse

theorem C15_no_error (ctx : Nat) (cmd : Bytes) (m : Msg) (max : Nat)
    (hm : max = 0 ∨ 7 ≤ max) (hc : cmd ≠ []) (hp : m.pathOk) :
    (encodeMsgFull ctx cmd m max).2 = none := by
  rw [encodeMsgFull_eq ctx cmd m max hm hc hp]

/-- Every PDU sent carries a PDV list (4-byte item length, context id, control
header, fragment) no longer than the peer's maximum. -/
theorem C15_size (ctx : Nat) (cmd : Bytes) (m : Msg) (max : Nat)
    (h7 : 7 ≤ max) (hc : cmd ≠ []) (hpo : m.pathOk) :
    ∀ p ∈ (encodeMsgFull ctx cmd m max).1, 4 + 1 + 1 + p.payload.length ≤ max := by
  intro p hp
  have hlen : p.payload.length ≤ max - 6 := by
    rcases (mem_encode ctx cmd m max (.inr h7) hc hpo p hp).2 with h | h
    · exact (length_of_mem_chunksOf cmd max h7 _ h).2
    · rcases mem_dataChunks m max _ h with ⟨h, _⟩ | ⟨_, h⟩
      · simp [h]
      · exact (length_of_mem_chunksOf _ max h7 _ h).2
  omega

/-- **The maximum that counts is the peer's**: whatever this side advertised as its own maximum
(including 0, "unlimited"), every P-DATA `send_msg` hands to the provider fits the maximum length the
peer advertised, in both roles. -/
theorem C15_send_respects_peer (isRequestor : Bool) (reqMax accMax ctx : Nat) (cmd : Bytes) (m : Msg)
    (h7 : 7 ≤ (if isRequestor then accMax else reqMax)) (hc : cmd ≠ []) (hpo : m.pathOk) :
    ∀ p ∈ (sendMsg isRequestor reqMax accMax ctx cmd m).1,
      4 + 1 + 1 + p.payload.length ≤ (if isRequestor then accMax else reqMax) :=
  C15_size ctx cmd m _ h7 hc hpo

/-- the source still takes the peer's maximum: `maximum_pdu_size` returns the acceptor's
`maximum_length` for a requestor and the requestor's for an acceptor, and `send_msg` passes exactly
that to `encode_msg` (syntax facts regenerated from dimse.py on every run) -/
theorem C15_code_uses_peer_max :
    Gen.Dimse.maxSrcAsRequestor = "acceptor" ∧ Gen.Dimse.maxSrcAsAcceptor = "requestor" ∧
    Gen.Dimse.sendPassesMax = true :=
  ⟨rfl, rfl, rfl⟩

/-- why "the smaller of the two maxima" is not a safe simplification: 0 means unlimited, so with
an unlimited local maximum the minimum is 0 and a 100-byte data set goes out in one PDV although the
peer accepts at most 16 bytes -/
theorem C15_min_of_both_neg :
    ∃ p ∈ (encodeMsgFull 1 [1] ⟨true, some (List.replicate 100 0), none⟩ (min 16 0)).1,
      ¬ 4 + 1 + 1 + p.payload.length ≤ 16 := by decide

/-- Control bytes are `01* 03` followed, iff data-set fragments are sent, by
`00* 02`; every PDV carries the requested context id. -/
theorem C15_shape (ctx : Nat) (cmd : Bytes) (m : Msg) (max : Nat)
    (hm : max = 0 ∨ 7 ≤ max) (hc : cmd ≠ []) (hpo : m.pathOk) :
    let l := (encodeMsgFull ctx cmd m max).1
    (∀ p ∈ l, p.ctx = ctx) ∧
    ∃ n, (dataFrags l = [] ∧ l.map (·.ctl) = List.replicate n 1 ++ [3]) ∨
         (dataFrags l ≠ [] ∧ ∃ k, l.map (·.ctl) = List.replicate n 1 ++ [3] ++ (List.replicate k 0 ++ [2])) := by
  intro l
  have hl : l = mark ctx 1 3 (chunksOf cmd max) ++ mark ctx 0 2 (dataChunks m max) :=
    congrArg Prod.fst (encodeMsgFull_eq ctx cmd m max hm hc hpo)
  have hdf : dataFrags l = mark ctx 0 2 (dataChunks m max) := (frags_encode ctx cmd m max hm hc hpo).2
  refine ⟨fun p hp => (mem_encode ctx cmd m max hm hc hpo p hp).1, (chunksOf cmd max).length - 1, ?_⟩
  rw [hdf, Ne, mark_eq_nil, hl, List.map_append, map_ctl_mark ctx 1 3 _ (chunksOf_ne_nil cmd max hm hc)]
  by_cases hd : dataChunks m max = []
  · exact .inl ⟨hd, by rw [hd]; exact List.append_nil _⟩
  · exact .inr ⟨hd, _, by rw [map_ctl_mark ctx 0 2 _ hd]⟩

/-- The command fragments concatenate to the command set, the data fragments to
the data set (in memory: the stream's bytes; file-backed: the file from the
offset on). -/
theorem C15_concat (ctx : Nat) (cmd : Bytes) (m : Msg) (max : Nat)
    (hm : max = 0 ∨ 7 ≤ max) (hc : cmd ≠ []) (hpo : m.pathOk) :
    payloads (cmdFrags (encodeMsgFull ctx cmd m max).1) = cmd ∧
    payloads (dataFrags (encodeMsgFull ctx cmd m max).1) = m.bytes := by
  obtain ⟨h1, h2⟩ := frags_encode ctx cmd m max hm hc hpo
  rw [h1, h2, payloads_mark, payloads_mark, flatten_chunksOf cmd max hm, flatten_dataChunks m max hm]
  exact ⟨rfl, rfl⟩

/-- Number of fragments: one when the maximum is unlimited, else
`⌈len / (max−6)⌉`; no data fragment for an absent or empty in-memory data set. -/
theorem C15_count (ctx : Nat) (cmd : Bytes) (ds : Option Bytes) (max : Nat)
    (hm : max = 0 ∨ 7 ≤ max) (hc : cmd ≠ []) :
    (cmdFrags (encodeMsg ctx cmd ds max).1).length = (if max = 0 then 1 else ceilDiv cmd.length (max - 6)) ∧
    (dataFrags (encodeMsg ctx cmd ds max).1).length =
      (match ds with
       | none => 0
       | some d => if d = [] then 0 else if max = 0 then 1 else ceilDiv d.length (max - 6)) := by
  obtain ⟨h1, h2⟩ := frags_encode ctx cmd ⟨false, ds, none⟩ max hm hc (pathOk_none _ _)
  rw [encodeMsg_eq_full, h1, h2, length_mark, length_mark, length_chunksOf]
  refine ⟨rfl, ?_⟩
  cases ds with
  | none => rw [dataChunks_absent]; rfl
  | some d =>
    by_cases hd : d = []
    · simp [dataChunks_stream, hd]
    · simp [dataChunks_stream, hd, length_chunksOf]

theorem C15_count_is_ceiling (a n : Nat) (hn : 0 < n) :
    a ≤ ceilDiv a n * n ∧ (0 < a → (ceilDiv a n - 1) * n < a) ∧ (a = 0 → ceilDiv a n = 0) ∧
    ∀ k, a ≤ k * n → (k - 1) * n < a → ceilDiv a n = k :=
  ⟨ceilDiv_mul_ge a n hn, fun _ => by have := ceilDiv_mul_lt a n hn; rw [Nat.sub_mul]; omega,
   fun h => h ▸ ceilDiv_zero n hn, fun k h1 h2 => ceilDiv_unique a n k hn h1 h2⟩

/-- Exact multiples of the fragment size: a part of `k·(max−6)` bytes, `k ≥ 1`,
is sent as exactly `k` fragments, all of full size (no trailing empty
fragment, none missing). -/
theorem C15_exact_multiples (ctx : Nat) (cmd d : Bytes) (max k : Nat)
    (h7 : 7 ≤ max) (hc : cmd ≠ []) (hk : 1 ≤ k) (hd : d.length = k * (max - 6)) :
    (dataFrags (encodeMsg ctx cmd (some d) max).1).length = k ∧
    ∀ p ∈ dataFrags (encodeMsg ctx cmd (some d) max).1, p.payload.length = max - 6 := by
  have hn : 0 < max - 6 := by omega
  have hdne : d ≠ [] := List.ne_nil_of_length_pos (hd ▸ Nat.mul_pos hk hn)
  have hch : dataChunks ⟨false, some d, none⟩ max = sliceLoop d (max - 6) 0 k := by
    simp [dataChunks_stream, hdne, chunksOf_of_le d max h7, hd, ceilDiv_mul k _ hn]
  rw [encodeMsg_eq_full, (frags_encode ctx cmd _ max (.inr h7) hc (pathOk_none _ _)).2, hch, length_mark,
    length_sliceLoop]
  refine ⟨rfl, fun p hp => ?_⟩
  -- every slice ends inside the range of the loop, which here is exactly `d`
  obtain ⟨pos, h1, h2⟩ := mem_sliceLoop d _ _ _ (mem_mark _ _ _ _ _ hp).2.2
  omega

theorem C15_no_empty_fragment (ctx : Nat) (cmd : Bytes) (ds : Option Bytes) (max : Nat)
    (hm : max = 0 ∨ 7 ≤ max) (hc : cmd ≠ []) :
    ∀ p ∈ (encodeMsg ctx cmd ds max).1, p.payload ≠ [] := by
  intro p hp
  rw [encodeMsg_eq_full] at hp
  rcases (mem_encode ctx cmd _ max hm hc (pathOk_none _ _) p hp).2 with h | h
  · exact mem_chunksOf_ne_nil cmd max hm hc _ h
  · rcases mem_dataChunks _ max _ h with ⟨_, hf⟩ | ⟨hb, h⟩
    · cases ds <;> cases hf
    · exact mem_chunksOf_ne_nil _ max hm hb _ h

/-- Reassembly: however the PDVs are grouped into P-DATA primitives, the receiver ends up with
exactly the command-set and data-set bytes and the context id, reports completion and — when no
group is empty — has consumed every primitive.  `noDS` is the receiver's reading of
CommandDataSetType; that it says "no data set" exactly when no data fragment was sent is C16. -/
theorem C15_reassemble (noDS : Bytes → Option Bool) (ctx : Nat) (cmd : Bytes) (m : Msg) (max : Nat)
    (hm : max = 0 ∨ 7 ≤ max) (hc : cmd ≠ []) (hpo : m.pathOk)
    (hflag : noDS cmd = some (dataFrags (encodeMsgFull ctx cmd m max).1).isEmpty)
    (g : List (List PDV)) (hg : g.flatten = (encodeMsgFull ctx cmd m max).1) :
    (decodeMsg noDS {} g).1 = { cmdBuf := cmd, ds := m.bytes, ctx := some ctx, cmd := some cmd } ∧
    (decodeMsg noDS {} g).2.1 = .complete ∧
    ((∀ x ∈ g, x ≠ []) → (decodeMsg noDS {} g).2.2 = []) := by
  have hflat : decodePDVs noDS {} g.flatten =
      ({ cmdBuf := cmd, ds := m.bytes, ctx := some ctx, cmd := some cmd }, .complete, []) := by
    rw [(frags_encode ctx cmd m max hm hc hpo).2] at hflag
    rw [hg, encodeMsgFull_eq ctx cmd m max hm hc hpo,
      decodePDVs_sent noDS ctx _ _ (chunksOf_ne_nil cmd max hm hc), flatten_chunksOf cmd max hm, hflag,
      ← flatten_dataChunks m max hm]
    cases hd : dataChunks m max with
    | nil => rfl
    | cons f fs => cases fs <;> rfl
  obtain ⟨h1, h2, h3⟩ := decodeMsg_flatten noDS g {}
  rw [hflat] at h1 h2 h3
  exact ⟨h1, h2, fun hall => h3 hall rfl⟩

/-- A file-backed data set with at least one byte after the offset is sent as
exactly the same PDVs as the same bytes held in memory. -/
theorem C15_file_eq_memory (ctx : Nat) (cmd : Bytes) (flag : Bool) (file : Bytes) (off max : Nat)
    (hm : max = 0 ∨ 7 ≤ max) (hne : file.drop off ≠ []) :
    encodeFileData ctx file off max = encodePart ctx 0 2 (file.drop off) max ∧
    encodeMsgFull ctx cmd ⟨flag, none, some (file, off)⟩ max = encodeMsg ctx cmd (some (file.drop off)) max := by
  have hoff : off ≤ file.length := by
    have := List.length_pos_iff.mpr hne
    rw [List.length_drop] at this
    omega
  have h1 : encodeFileData ctx file off max = encodePart ctx 0 2 (file.drop off) max := by
    rw [encodeFileData_eq ctx file off max hm hoff, encodePart_eq ctx 0 2 _ max hm hne, if_neg hne]
  refine ⟨h1, ?_⟩
  unfold encodeMsgFull encodeMsg
  simp only [hne, ↓reduceIte, h1]

/-- …and an empty one (offset at or past the end of the file) is sent as one
empty last fragment, where the in-memory encoder sends nothing. -/
theorem C15_file_empty (ctx : Nat) (cmd : Bytes) (flag : Bool) (file : Bytes) (off max : Nat)
    (hm : max = 0 ∨ 7 ≤ max) (hc : cmd ≠ []) (hoff : off ≤ file.length) (he : file.drop off = []) :
    dataFrags (encodeMsgFull ctx cmd ⟨flag, none, some (file, off)⟩ max).1 = [⟨ctx, 2, []⟩] ∧
    dataFrags (encodeMsg ctx cmd (some (file.drop off)) max).1 = [] := by
  constructor
  · rw [(frags_encode ctx cmd _ max hm hc (by intro f o h; cases h; exact hoff)).2]
    simp [dataChunks_file, he, mark]
  · rw [encodeMsg_eq_full, (frags_encode ctx cmd _ max hm hc (pathOk_none _ _)).2]
    simp [dataChunks_stream, he, mark]

/-- What the code does outside the property's domain: an empty command set with
a limited maximum exhausts the fragment generator (RuntimeError), and a
maximum of 1..6 raises before anything is yielded. -/
theorem C15_empty_command_raises (ctx : Nat) (ds : Option Bytes) (max : Nat) (h7 : 7 ≤ max) :
    encodeMsg ctx [] ds max = ([], some .stopIteration) := by
  simp [encodeMsg, encodePart, nrFragments_eq _ max (.inr h7), fragments_eq _ max (.inr h7), chunksOf_of_le _ max h7,
    show max ≠ 0 by omega, ceilDiv_zero _ (show 0 < max - 6 by omega), sliceLoop, emitPart]

/-- …and so does an unlimited maximum with a file offset more than one past the
end of the file (`f.read` of a negative length other than −1), after the
command fragments were yielded.  `split_dataset` never returns such an offset. -/
theorem C15_offset_past_end_raises (ctx : Nat) (cmd : Bytes) (flag : Bool) (file : Bytes) (off : Nat)
    (hoff : file.length + 1 < off) :
    (encodeMsgFull ctx cmd ⟨flag, none, some (file, off)⟩ 0).2 = some .valueError := by
  simp [encodeMsgFull, encodePart, nrFragments, fragments, emitPart, encodeFileData, hoff]

theorem C15_small_max_raises (ctx : Nat) (cmd : Bytes) (ds : Option Bytes) (max : Nat)
    (h0 : 0 < max) (h7 : max < 7) :
    (encodeMsg ctx cmd ds max).1 = [] ∧ (encodeMsg ctx cmd ds max).2 ≠ none := by
  have h1 : max ≠ 0 := by omega
  by_cases h6 : max = 6
  · subst h6; simp [encodeMsg, encodePart, nrFragments]
  · have h3 : max < 6 := by omega
    simp [encodeMsg, encodePart, nrFragments, fragments, h1, h6, h3, h7]

-- non-vacuity: a 5-byte command set and a 4-byte data set with max = 8 (fragment size 2,
-- the data set an exact multiple), grouped 2+1+2 into P-DATA primitives
example :
    (encodeMsg 3 [1, 2, 3, 4, 5] (some [9, 8, 7, 6]) 8).1 =
      [⟨3, 1, [1, 2]⟩, ⟨3, 1, [3, 4]⟩, ⟨3, 3, [5]⟩, ⟨3, 0, [9, 8]⟩, ⟨3, 2, [7, 6]⟩] := by decide

example :
    decodeMsg (fun _ => some false) {}
      [[⟨3, 1, [1, 2]⟩, ⟨3, 1, [3, 4]⟩], [⟨3, 3, [5]⟩], [⟨3, 0, [9, 8]⟩, ⟨3, 2, [7, 6]⟩]] =
      ({ cmdBuf := [1, 2, 3, 4, 5], ds := [9, 8, 7, 6], ctx := some 3, cmd := some [1, 2, 3, 4, 5] },
       .complete, []) := by decide

-- the hypotheses are satisfiable: a file-backed message whose offset lies in the file
example : (Msg.mk true none (some ([0, 0, 5, 6, 7], 2))).pathOk := by
  intro f o h; cases h; decide

-- file-backed: 2 bytes of preamble skipped by the offset, same PDVs as in memory
example :
    encodeMsgFull 1 [1, 2] ⟨true, none, some ([0, 0, 5, 6, 7], 2)⟩ 8 =
      encodeMsg 1 [1, 2] (some [5, 6, 7]) 8 := by decide

end PynetVerif
