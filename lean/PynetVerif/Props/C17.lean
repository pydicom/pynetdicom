import PynetVerif.Spec.Ps37
import PynetVerif.Lemmas.CmdTables
/-!
C17 — DIMSE primitives survive conversion to command sets and back; the command field
values are those PS3.7 assigns.

`Gen.Cmd.*` is regenerated from /repo on every run (`translate/cmdset.py`): `_MESSAGE_TYPES`,
`_COMMAND_SET_KEYWORDS` (as tags, VR/VM from pydicom's dictionary), `_DATASET_KEYWORDS`,
`_MSG_TO_PRIMITIVE`, `_MULTIVALUE_TAGS`, dimse.py's `_RQ_TO_MESSAGE`/`_RSP_TO_MESSAGE`, the
attributes of the primitive classes and a behavioural fingerprint of their setters.
`Spec.Ps37.*` is the hand transcription of PS3.7.  `Cmd.*` (Model/Cmd.lean) is the executable
model the harness runs against the real code; the theorems below are about it, for all inputs.
-/
namespace PynetVerif
open Cmd

/-- The command field values of `_MESSAGE_TYPES` are those of PS3.7 E.1, and each is paired
with the message class of the same name. -/
theorem C17_fields :
    Gen.Cmd.messageTypes.map (fun e => (e.1, e.2.1)) = Spec.Ps37.commandFields ∧
    Gen.Cmd.messageTypes.all (fun e => e.2.2 == e.2.1) = true := by
  decide +kernel

/-- Per message type, the elements of `_COMMAND_SET_KEYWORDS` are exactly the fields of the
PS3.7 message table plus the status-related fields listed as documented extras in the spec
(which occur on responses only and are among (0000,0901/0902/0903/1005)). -/
theorem C17_elements :
    Gen.Cmd.rows.map (fun r => (r.2.1, r.1)) = Spec.Ps37.commandFields ∧
    Gen.Cmd.rows.all (fun r => Spec.Ps37.elements r.1 == some r.2.2.2.1) = true ∧
    Gen.Cmd.rows.all (fun r => (Gen.Cmd.commandSetKeywords.lookup r.1).map Spec.Ps37.sortTags == some r.2.2.2.1) = true ∧
    Gen.Cmd.commandSetKeywords.length = 23 ∧
    Spec.Ps37.statusFields.all (fun e => e.2.all Spec.Ps37.statusRelated.contains &&
      Spec.Ps37.commandFields.any (fun f => f.2 == e.1 && decide (0x8000 ≤ f.1))) = true := by
  decide +kernel

/-- pydicom's dictionary gives every command element the VR and VM of PS3.7 E.1. -/
theorem C17_dictionary : Gen.Cmd.dictionary = Spec.Ps37.dictionary := rfl

/-- The model's tables *are* the code's: message types (name, command field, primitive class,
elements, data-set parameter), VR table, multi-value tags, attributes of the primitive
classes (and which have setters), defaults of a fresh primitive, `send_msg`'s choice. -/
theorem C17_model_is_code :
    rows.map (fun r => (r.name, r.field, r.cls.name, r.keywords, r.dataset)) = Gen.Cmd.rows ∧
    vrTable.map (fun e => (e.1, e.2.name)) = Gen.Cmd.dictionary.map (fun e => (e.1, e.2.2.1)) ∧
    multivalueTags = Gen.Cmd.multivalueTags ∧
    Gen.Cmd.rows.all (fun r => Gen.Cmd.msgPrimitive.lookup r.1 == some r.2.2.1) = true ∧
    (Gen.Cmd.rows.filter (fun r => r.2.2.2.2)).length = Gen.Cmd.datasetKeywords.length ∧
    attrsOk = true ∧ defaultsOk = true ∧ kindOk = true := by
  decide +kernel

/-- The model's `store` reproduces the observed behaviour of every setter of every primitive
class on the probe vector (None, boundary ints, ASCII strings incl. padding / too long /
backslash, tag lists of 0, 1, 2, 3 entries incl. out-of-range tags). -/
theorem C17_setters_probe : Gen.Cmd.setterProbe.all probeOk = true := by decide +kernel

theorem C17_rows_wf : (∀ r ∈ rows, r.wf = true) ∧
    (∀ r ∈ rows, rows.find? (fun x => x.field == r.field) = some r) ∧ rows.length = 23 :=
  ⟨fun r hr => (rows_ok r hr).1, fun r hr => (rows_ok r hr).2.1, rfl⟩

/-- Writing an element value and reading it back gives the value up to the reader's strip
rules — any multiplicity, any length — and the written value has even length. -/
theorem C17_element_roundtrip (vr : VR) (v : EVal) (h : ValOk vr v) :
    ∃ b, encodeVal vr v = some b ∧ b.length % 2 = 0 ∧ decodeVal vr b = some (normVal vr v) := by
  obtain ⟨b, hb, hd⟩ := decodeVal_encodeVal vr v h
  exact ⟨b, hb, encodeVal_even vr v b hb, hd⟩

/-- … and exactly the value when there is nothing to strip (padding removal is exact). -/
theorem C17_element_roundtrip_clean (vr : VR) (v : EVal) (h : ValClean vr v) :
    ∃ b, encodeVal vr v = some b ∧ decodeVal vr b = some v := by
  obtain ⟨b, hb, hd⟩ := decodeVal_encodeVal vr v (ValClean.ok vr v h)
  exact ⟨b, hb, by rw [hd, normVal_clean vr v h]⟩

/-- A data set with strictly increasing tags whose elements are well-formed decodes, from its
encoding, to itself (values up to the strip rules; exactly itself when the values are clean). -/
theorem C17_cmd_roundtrip (c : Cmd) (hs : Sorted c) (hok : ∀ e ∈ c, ElemOk e) (b : Bytes)
    (hb : encodeCmd c = some b) :
    decodeCmd b = some (normCmd c) ∧ ((∀ e ∈ c, ElemClean e) → decodeCmd b = some c) := by
  have h := decodeCmd_encodeCmd c hs hok b hb
  exact ⟨h, fun hc => by rw [h, normCmd_clean c hc]⟩

/-- `_set_command_group_length`: the command set built from an in-range primitive starts with
CommandGroupLength (12 bytes) whose value is the byte length of the rest. -/
theorem C17_group_length (r : Row) (hr : r ∈ rows) (p : Prim) (h : InRange r p) :
    ∃ c rest hdr, primToCmd r p = some c ∧ Cmd.get c 0 = some (.nums [rest.length]) ∧
      encodeCmd (c.del 0) = some rest ∧ hdr.length = 12 ∧ encodeCmd c = some (hdr ++ rest) := by
  obtain ⟨c, rest, h1, _, _, hget, h3, h4⟩ := primToCmd_spec r (r.wf_facts (rows_ok r hr).1) p h
  exact ⟨c, rest, leTag 0 ++ le32 4 ++ le32 rest.length, h1, (hget 0).trans (if_pos rfl), h3, rfl, h4⟩

/-- **Round trip.** For each of the 23 message types and every primitive whose parameters of
that type are in range (any subset of them present), `primitive_to_message` + `encode_msg`
succeed and `decode_msg` + `message_to_primitive` on those bytes yield the same message type
and the canonical form of the primitive: same parameters (multi-valued lists included), same
data-set bytes. -/
theorem C17_roundtrip (r : Row) (hr : r ∈ rows) (p : Prim) (h : InRange r p) :
    ∃ b d, encodeMsg r p = some (b, d) ∧ decodeMsg rows b d = some (r, canon r p) :=
  roundtrip_generic rows r (rows_ok r hr).1 (rows_ok r hr).2.1 p h

/-- The request/response direction survives: if `r` is the message type `send_msg` picks for
the primitive, it is also the one it picks for the primitive that comes out. -/
theorem C17_direction (r : Row) (hr : r ∈ rows) (p : Prim) (h : InRange r p)
    (hk : kindOf r.cls p = some r) : kindOf r.cls (canon r p) = some r := by
  rw [← hk]
  apply kindOf_congr
  cases hp : p.par 0x0120 with
  | none =>
    -- a request stays a request: an absent id stays absent
    by_cases hks : 0x0120 ∈ r.keywords ∧ (r.cls.setter? 0x0120).isSome
    · obtain ⟨s, hs⟩ := Option.isSome_iff_exists.mp hks.2
      rw [canon_par r p _ s hks.1 hs, hp]
    · rw [canon_par_default r p _ hks]
      rfl
  | some v =>
    -- `send_msg` chose `r` for a primitive with an id: `r` is a response (or C-CANCEL) and carries it
    have hfound := List.find?_some hk
    simp only [hp, Option.isNone_some, Bool.not_false, Bool.and_eq_true] at hfound
    have hresp := (rows_ok r hr).2.2
    rw [respondsOk, hfound.2] at hresp
    simp only [Bool.not_true, Bool.false_or, Bool.and_eq_true, beq_iff_eq] at hresp
    have hin : (0x0120 : Nat) ∈ r.keywords := List.contains_iff_mem.mp hresp.1
    have hvr : vrOf 0x0120 = some .US := by decide
    have hok := h 0x0120 hin .us16 .US hresp.2 hvr
    rw [hp] at hok
    rw [canon_par r p _ .us16 hin hresp.2, hp, hvr]
    cases v <;> first | exact hok.elim | rfl

/-- In-range values are values the setters accept and store unchanged (so `InRange` describes
primitives that can actually be built through the public attributes). -/
theorem C17_inrange_accepted (r : Row) (p : Prim) (h : InRange r p) (t : Nat) (ht : t ∈ r.keywords)
    (s : Setter) (vr : VR) (hs : r.cls.setter? t = some s) (hv : vrOf t = some vr) :
    store s (p.par t) = some (p.par t) :=
  parOk_accepted s vr (p.par t) (h t ht s vr hs hv)

/-! ## outside the range: what the hypotheses exclude (witnesses, replayed by the harness) -/

def echoRq : Row := ⟨"C-ECHO-RQ", 0x0030, C_ECHO, [0x0000, 0x0002, 0x0100, 0x0110, 0x0800], false⟩
def echoRsp : Row := ⟨"C-ECHO-RSP", 0x8030, C_ECHO, [0x0000, 0x0002, 0x0100, 0x0120, 0x0800, 0x0900, 0x0902], false⟩

/-- AffectedSOPClassUID = "1\\2", MessageID = 1 -/
def backslashUid : Prim :=
  { par := fun t => if t = 0x0110 then some (.int 1) else if t = 0x0002 then some (.str [0x31, 0x5C, 0x32]) else none
    data := none }

/-- Status = 65536, MessageIDBeingRespondedTo = 1 -/
def bigStatus : Prim :=
  { par := fun t => if t = 0x0120 then some (.int 1) else if t = 0x0900 then some (.int 65536) else none
    data := none }

/-- The setters accept more than the range: a UID with a backslash is stored unchanged by
`set_uid` (only the length is checked), is encoded, and comes back truncated at the backslash —
the full-strength statement "for every value the primitive accepts" fails; `InRange`
(`UidOk`: no delimiter) is the exact excluded hypothesis. -/
theorem C17_accepted_backslash_neg :
    echoRq ∈ rows ∧
    (∀ t s, echoRq.cls.setter? t = some s → store s (backslashUid.par t) = some (backslashUid.par t)) ∧
    (match encodeMsg echoRq backslashUid with
      | some (b, d) =>
        (match decodeMsg rows b d with
         | some (r, q) => r.name == "C-ECHO-RQ" && q.par 0x0002 == some (.str [0x31]) &&
             (canon echoRq backslashUid).par 0x0002 == some (.str [0x31, 0x5C, 0x32])
         | none => false)
      | none => false) = true :=
  ⟨by decide, forall_setter _ _ (by decide), by decide⟩

/-- … and a Status above 65535 is accepted by the setter but cannot be encoded: the conversion
raises (in the code: `len(None)`), it does not deliver a wrong value. -/
theorem C17_accepted_overflow_neg :
    echoRsp ∈ rows ∧
    (∀ t s, echoRsp.cls.setter? t = some s → store s (bigStatus.par t) = some (bigStatus.par t)) ∧
    encodeMsg echoRsp bigStatus = none :=
  ⟨by decide, forall_setter _ _ (by decide), by decide⟩

/-- C-STORE-RSP with Status, a two-tag OffendingElement, an ErrorComment with trailing padding,
an odd-length UID: in range. -/
def storeRsp : Row := ⟨"C-STORE-RSP", 0x8001, C_STORE,
  [0x0000, 0x0002, 0x0100, 0x0120, 0x0800, 0x0900, 0x0901, 0x0902, 0x1000], false⟩

def sampleRsp : Prim :=
  { par := fun t =>
      if t = 0x0120 then some (.int 65535)
      else if t = 0x0900 then some (.int 0xA900)
      else if t = 0x0901 then some (.list [0x00100010, 0xFFFFFFFF])
      else if t = 0x0902 then some (.str [0x20, 0x61, 0x62, 0x20, 0x20])
      else if t = 0x1000 then some (.str [0x31, 0x2E, 0x32])
      else if t = 0x0700 then some (.int 2)
      else none
    data := some [1, 2, 3] }

example : storeRsp ∈ rows ∧ InRange storeRsp sampleRsp := by
  refine ⟨by decide, ?_⟩
  intro t ht s vr hs hv
  simp only [storeRsp, List.mem_cons, List.mem_nil_iff, or_false] at ht
  rcases ht with rfl | rfl | rfl | rfl | rfl | rfl | rfl | rfl | rfl <;> cases hs <;> cases hv <;>
    simp [ParOk, sampleRsp, UidOk, BS, stripSp, rstripPad, rstripBy, isSp, isPad, SP, NUL]

-- its round trip, evaluated: the ErrorComment loses its trailing padding, the list stays a list,
-- Priority is back at its default and the data set (not part of a C-STORE-RSP) is gone
example : (match encodeMsg storeRsp sampleRsp with
    | some (b, d) =>
      (match decodeMsg rows b d with
       | some (r, q) => r.name == "C-STORE-RSP" && b.length == 94 && d == [] &&
           q.par 0x0902 == some (.str [0x20, 0x61, 0x62]) &&
           q.par 0x0901 == some (.list [0x00100010, 0xFFFFFFFF]) && q.par 0x0700 == some (.int 2) && q.data == none
       | none => false)
    | none => false) = true := by decide

example : ValClean .UI (.strs [[0x31, 0x2E, 0x32], [0x33]]) ∧ ValOk .AT (.nums [0, 0xFFFFFFFF]) ∧
    Sorted [(0x0100, .nums [48]), (0x0110, .nums [1])] := by
  refine ⟨⟨?_, ?_, by decide⟩, ?_, ?_⟩
  · intro s hs; simp at hs; rcases hs with rfl | rfl <;> decide
  · intro s hs; simp at hs; rcases hs with rfl | rfl <;> simp [cleanStr, rstripPad, stripSp, rstripBy, isPad, isSp, SP, NUL]
  · intro x hx; simp at hx; rcases hx with rfl | rfl <;> omega
  · simp [Sorted]

end PynetVerif
