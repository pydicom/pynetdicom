import PynetVerif.Lemmas.ScpServices
/-!
C21 — handler results map to response status and data as documented.

`Spec.ScpStatus` is the hand transcription of what pynetdicom documents (docs/reference/status.rst,
docs/service_classes/*.rst, SCP and handler docstrings, PS3.7 Annex C); the theorems compare it
with the model M-Scp (tied to service_class.py by the differential run of harness/props/c21.py)
for EVERY status object (any int, any status Dataset = any element list, any other object),
every dataset shape, every table, every position in a handler's result sequence (the statements
are about the loop bodies, which are the same for every position).

Deviations of the current code (each with a `_neg` witness, replayed on the real code):
* `validate_status` copies every element that names an attribute of the response primitive —
  MessageIDBeingRespondedTo, (for the C-* services) AffectedSOPClassUID … — not only the status
  related ones (`C21_optional_copied_neg`; exact set: `C21_optional_copied_partial`);
* the Relevant Patient SCP answers 0x0000 Success instead of 0xC311 when the handler raises a
  TypeError (`C21_status_rp_typeerror_neg`).
Not proved here: that the data set bytes delivered equal encode(ts, dataset) (pydicom's codec is
trusted; the harness compares the decoded data set of every response with the handler's).
-/
namespace PynetVerif
open Scp
open Status (Category)
open Spec.ScpStatus (Svc StatusShape Result statusOf handlerException documented statusRelated)

/-- `validate_status`: an int is used as is, a Dataset gives its Status, a Dataset without
Status gives 0xC001, any other object 0xC002 — for every primitive but C-ECHO (which has its
own code, see `C21_status_echo`), every status object, every prior state of the response. -/
theorem C21_status_value (p : Prim) (hp : p ≠ .echo) (s : StatusVal) (r : Rsp) :
    (validateStatus p s r).status = statusOf (svcOf p) (shapeOf s) := by
  rw [validateStatus_status]
  exact statusCode_spec _ _ (by cases p <;> first | exact absurd rfl hp | (intro h; cases h))

/-- what the handler of a single-response service did, in the spec's terms -/
def fnResult (h : Handler) : Result :=
  match h.call.1 with
  | .raised => .raised
  | res => .status (shapeOf (asStatus res))

theorem fnResult_raised {h : Handler} (hr : h.call.1 = .raised) : fnResult h = .raised := by
  unfold fnResult; rw [hr]

theorem fnResult_value {h : Handler} (hne : h.call.1 ≠ .raised) :
    fnResult h = .status (shapeOf (asStatus h.call.1)) := by
  unfold fnResult
  split
  · next hr => exact absurd hr hne
  · rfl

theorem echoRsp_status (m : Nat) (sv : StatusVal) : (echoRsp m sv).status = statusOf .echo (shapeOf sv) := by
  cases sv with
  | int c => rfl
  | bad => rfl
  | ds elems =>
    simp only [echoRsp, shapeOf, ← lastStatus_isSome]
    cases hl : lastStatus elems with
    | none => rfl
    | some v => exact (copyElems_status _ _ _).trans (by rw [hl]; rfl)

/-- C-ECHO: the handler's int / Dataset Status; 0x0000 for an exception, a Dataset without Status
or any other object. -/
theorem C21_status_echo (cx m : Nat) (h : Handler) :
    ∀ s ∈ (echoScp cx m h).rsps, some s.r.status = documented .echo (fnResult h) := by
  intro s hs
  rcases (echoScp_case cx m h).mem hs with ⟨hr, rfl⟩ | ⟨hne, hs⟩
  · rw [fnResult_raised hr]; rfl
  · rw [List.mem_singleton.mp hs, fnResult_value hne]
    exact congrArg some (echoRsp_status m _)

/-- C-STORE (0xC211) and N-DELETE (0x0110): the handler's status, 0xC001 / 0xC002, or the
documented exception code. -/
theorem C21_status_store_ndelete (cx m : Nat) (h : Handler) :
    (∀ s ∈ (statusOnlyScp .store 0xC211 cx m h).rsps, some s.r.status = documented .store (fnResult h)) ∧
    (∀ s ∈ (statusOnlyScp .nDelete 0x0110 cx m h).rsps, some s.r.status = documented .n (fnResult h)) := by
  have key : ∀ (p : Prim) (exc : Int) (svc : Svc), svc ≠ .echo → exc = handlerException svc →
      ∀ s ∈ (statusOnlyScp p exc cx m h).rsps, some s.r.status = documented svc (fnResult h) := by
    intro p exc svc hsvc hexc s hs
    rcases (statusOnlyScp_case p exc cx m h).mem hs with ⟨hr, rfl⟩ | ⟨hne, hs⟩
    · rw [fnResult_raised hr, hexc]; rfl
    · rw [List.mem_singleton.mp hs, fnResult_value hne, documented_status svc hsvc]
      exact congrArg some (validateStatus_status _ _ _)
  exact ⟨key .store 0xC211 .store (by decide) rfl, key .nDelete 0x0110 .n (by decide) rfl⟩

/-- what an N-ACTION / N-CREATE / N-EVENT-REPORT / N-GET / N-SET handler did, given that it
returned `(s, d)`: its dataset is due with a Success/Warning status of the table and must encode -/
def nResult (t : Table) (s : StatusVal) (d : DsVal) : Result :=
  if (tableCat t (statusCode s) = some Category.success ∨ tableCat t (statusCode s) = some Category.warning) ∧
      d.truthy = true ∧ d.encodes = false
  then .unencodable (shapeOf s) else .status (shapeOf s)

/-- The N-* services with a data set in the response: the handler's status (0xC001 / 0xC002),
0x0110 for an exception or a data set that cannot be encoded.  Hypothesis: not an N-CREATE whose
request lacked the Affected SOP Instance UID (then the instance UID is taken from the handler's
dataset, a separate, documented, path). -/
theorem C21_status_n (p : Prim) (t : Table) (cx m : Nat) (inst : Bool) (h : Handler)
    (hp : p ≠ .nCreate ∨ inst = true) :
    ∀ x ∈ (nScp p t cx m inst h).rsps,
      (h.call.1 = .raised ∧ some x.r.status = documented .n .raised) ∨
      (∃ s d o, fnPair h.call.1 = some (s, d, o) ∧ some x.r.status = documented .n (nResult t s d)) := by
  intro x hx
  rcases (nScp_case p t cx m inst h).mem hx with ⟨hr, rfl⟩ | ⟨_, hx⟩
  · exact .inl ⟨hr, rfl⟩
  · have hb := nBody_spec p t cx m inst h.call.1
    generalize nBody p t cx m inst h.call.1 = out at hb hx
    cases hb with
    | crash => cases hx
    | sent s d o y hpair _ _ hs =>
      refine .inr ⟨s, d, o, hpair, ?_⟩
      rw [List.mem_singleton.mp hx, show (Snap.mk cx y).r.status = y.status from rfl, hs hp, nResult]
      split
      · rfl
      · exact (documented_status .n (by decide) s).symm

/-- the result a C-FIND handler supplied with `(s, d)`: a Pending status of the table needs an
encodable identifier -/
def findResult (t : Table) (s : StatusVal) (d : DsVal) : Result :=
  if tableCat t (statusCode s) = some Category.pending ∧ d.encodes = false
  then .unencodable (shapeOf s) else .status (shapeOf s)

/-- the handler's own status is what is documented, unless a Pending identifier fails to encode -/
theorem findResult_own {t : Table} {s : StatusVal} {d : DsVal} (r : Rsp)
    (h : ¬ (tableCat t (statusCode s) = some Category.pending ∧ d.encodes = false)) :
    some (validateStatus .find s r).status = documented .find (findResult t s d) := by
  rw [findResult, if_neg h, documented_status .find (by decide), validateStatus_status]

/-- `_c_find_scp`, any yielded `(s, d)`, any position: if a response is sent for it, its status is
the handler's (0xC001 / 0xC002), or 0xC312 when the Pending identifier cannot be encoded; an
exception in the generator is answered 0xC311. -/
theorem C21_status_find_step (t : Table) (cx : Nat) (r : Rsp) :
    (∀ s d o c, stepStatus (findStep t cx true (some (.pair s d o)) r) = some c →
      some c = documented .find (findResult t s d)) ∧
    (tableCat t 0xC311 = some Category.failure →
      stepStatus (findStep t cx true none r) = documented .find .raised) := by
  constructor
  · intro s d o c hc
    have hs := findStep_spec t cx true (some (.pair s d o)) r
    generalize findStep t cx true (some (.pair s d o)) r = x at hs hc
    cases hs with
    | crash hu => cases hu
    | down he => cases he
    | known s1 d1 o1 _ hu hk =>
      cases hu
      cases hk with
      | skip => cases hc
      | final hcat => cases hc; exact findResult_own _ fun h => hcat h.1
      | warning hcat => cases hc; exact findResult_own _ fun h => by rw [hcat] at h; cases h.1
      | pending hcat hd => cases hc; exact findResult_own _ fun h => by rw [hd] at h; cases h.2
      | unencodable hcat hd =>
        cases hc
        rw [findResult, if_pos ⟨hcat, hd⟩]; rfl
  · intro hexc
    rw [findStep_known (s := .int 0xC311) rfl hexc]; rfl

/-- `_get_scp/_move_scp`, any yielded `(s, d)` while sub-operations remain: a response sent for
it carries the handler's status (0xC001 / 0xC002) — except that a Success of the table is rewritten
to Warning 0xB000 when sub-operations failed or warned (C22) — and an exception in the generator is
answered with the service's exception code (0xC411 / 0xC511) when the table calls it a Failure. -/
theorem C21_status_retrieve_step (p : Prim) (t : Table) (cx : Nat) (exc : Int) (g : GmSt) (hrem : g.ctr.rem ≠ 0) :
    (∀ s d o c, stepStatus (gmStep p t cx exc true (some (.pair s d o)) g) = some c →
      c = statusCode s ∨ (tableCat t (statusCode s) = some Category.success ∧ c = 0xB000)) ∧
    (tableCat t exc = some Category.failure →
      stepStatus (gmStep p t cx exc true none g) = some exc) := by
  constructor
  · intro s d o c hc
    have hs := gmStep_spec p t cx exc true (some (.pair s d o)) g
    generalize gmStep p t cx exc true (some (.pair s d o)) g = x at hs hc
    cases hs with
    | crash hu => cases hu
    | down he => cases he
    | brk h0 => exact absurd h0 hrem
    | skip => cases hc
    | final s' d' o' r hu _ hspec =>
      cases hu
      cases hc
      exact hspec.status.2
    | sub s' d' o' op g' hu _ hsub =>
      cases hu
      cases hc
      exact .inl hsub.status
  · intro hexc
    rw [gmStep_known (s := .int exc) rfl hrem hexc]; rfl

/-- Relevant Patient SCP: the first result `(s, d)` — the handler's status (0xC001 / 0xC002) or
0xC312 for an unencodable identifier; a non-TypeError exception is answered 0xC311. -/
theorem C21_status_rp (t : Table) (cx m : Nat) (s : StatusVal) (d : DsVal) (o : Outcome) (rest : List Item) :
    (∀ x, (rpScp t cx m (.gen (.yield (.pair s d o) {} :: rest))).rsps.head? = some x →
      some x.r.status = documented .find (findResult t s d)) ∧
    (rpScp t cx m (.gen (.raise false {} :: rest))).rsps.map (·.r.status) = [0xC311] ∧
    (rpScp t cx m (.fnRaise false {})).rsps.map (·.r.status) = [0xC311] := by
  refine ⟨?_, rfl, rfl⟩
  intro x hx
  have hb := rpBody_spec t cx (st := ({} : St).apply {}) rfl { msgIdResp := m } s d
  change (rpBody t cx (({} : St).apply {}) { msgIdResp := m } s d).rsps.head? = some x at hx
  generalize rpBody t cx (({} : St).apply {}) { msgIdResp := m } s d = out at hb hx
  cases hb with
  | final hc => cases hx; exact findResult_own _ fun h => hc h.1
  | pending _ hd => cases hx; exact findResult_own _ fun h => by rw [hd] at h; cases h.2
  | unencodable hc hd =>
    cases hx
    rw [findResult, if_pos ⟨hc, hd⟩]; rfl
  | silent => cases hx

/-- Violation: the Relevant Patient SCP catches `(StopIteration, TypeError)` around the handler
call — a handler that raises a TypeError is answered 0x0000 Success, not the documented 0xC311. -/
theorem C21_status_rp_typeerror_neg :
    (rpScp (tableNamed "RELEVANT_PATIENT_SERVICE_CLASS_STATUS") 3 7 (.gen [.raise true {}])).rsps.map (·.r.status)
      = [0x0000] ∧
    documented .find .raised = some 0xC311 := by
  exact ⟨by decide +kernel, rfl⟩

/-- The failure codes for what precedes the loops of `_get_scp` / `_move_scp` and for handlers
that raise when called. -/
theorem C21_status_retrieve_preloop (t : Table) (cx m : Nat) (te : Bool) (e : Ev) (rest : List Item) :
    (getScp t cx m (.fnRaise te e)).rsps.map (fun s => some s.r.status) = [documented .get .raised] ∧
    (moveScp t cx m (.fnRaise te e)).rsps.map (fun s => some s.r.status) = [documented .move .raised] ∧
    (findScp t cx m (.fnRaise te e)).rsps.map (fun s => some s.r.status) = [documented .find .raised] ∧
    (∀ v, asCount v = none →
      (getScp t cx m (.gen (.yield v e :: rest))).rsps.map (fun s => some s.r.status) = [documented .get .badCount]) ∧
    (∀ c : Int, c > 65535 →
      (getScp t cx m (.gen (.yield (.status (.int c)) e :: rest))).rsps.map (fun s => some s.r.status) =
        [documented .get .tooMany]) ∧
    (moveScp t cx m (.gen [])).rsps.map (fun s => some s.r.status) = [documented .move .noDestination] ∧
    (moveScp t cx m (.gen (.raise te e :: rest))).rsps.map (fun s => some s.r.status) =
      [documented .move .noDestination] ∧
    (∀ v, asDest v = .raises → e.hAbort = false →
      (moveScp t cx m (.gen (.yield v e :: rest))).rsps.map (fun s => some s.r.status) =
        [documented .move .badDestination]) ∧
    (∀ v, asDest v = .unknown → e.hAbort = false →
      (moveScp t cx m (.gen (.yield v e :: rest))).rsps.map (fun s => some s.r.status) =
        [documented .move .unknownDestination]) ∧
    (∀ v v2 e2 k, asDest v = .pass k → asCount v2 = none → e.hAbort = false →
      (moveScp t cx m (.gen (.yield v e :: .yield v2 e2 :: rest))).rsps.map (fun s => some s.r.status) =
        [documented .move .badCount]) := by
  refine ⟨rfl, rfl, rfl, ?_, ?_, rfl, rfl, ?_, ?_, ?_⟩
  · intro v hv; simp [getScp, hv, documented]
  · intro c hc
    have h1 : ¬ c < 1 := by omega
    simp [getScp, asCount, getCounted, h1, hc, documented]
  · intro v hv he; simp [moveScp, hv, St.apply, he, documented]
  · intro v hv he; simp [moveScp, hv, St.apply, he, documented]
  · intro v v2 e2 k hv hv2 he; simp [moveScp, hv, St.apply, he, moveAfterDest, hv2, documented]

/-- `validate_status` on a Dataset with a Status, field by field: field `k` of the response gets
the value of the (last) element of keyword `k` iff the primitive has an attribute of that name;
every other field keeps its value. -/
theorem C21_copied_fields (p : Prim) (elems : List (Kw × Nat)) (r : Rsp) (k : Kw) (hk : k ≠ .other)
    (hs : hasStatus elems = true) :
    (validateStatus p (.ds elems) r).field k =
      match lastVal k elems with
      | some v => if hasAttr p k then some (v : Int) else r.field k
      | none => r.field k := by
  simp only [validateStatus, hs, if_true]
  exact copyElems_field p k hk elems r

/-- Every status-related element (Spec: PS3.7 Annex C) is copied, for every primitive … -/
theorem C21_optional_copied_partial :
    (∀ p ∈ Prim.all, ∀ k ∈ Kw.all, statusRelated p.toNat k.toNat = true → hasAttr p k = true) ∧
    -- … and the elements copied are EXACTLY the status-related ones plus: MessageIDBeingRespondedTo
    -- (every primitive), AffectedSOPClassUID (the C-* primitives), AffectedSOPInstanceUID (C-STORE)
    (∀ p ∈ Prim.all, ∀ k ∈ Kw.all, hasAttr p k =
      (statusRelated p.toNat k.toNat || k == Kw.msgIdResp ||
       (k == Kw.affClass && Nat.ble p.toNat 4) || (k == Kw.affInst && p == Prim.store))) ∧
    -- pynetdicom's own list of optional status keywords (used by its SCU) lies within the spec
    (∀ p ∈ Prim.all, ∀ k ∈ Kw.all, statusOptional p k = true → statusRelated p.toNat k.toNat = true) := by
  refine ⟨by decide +kernel, by decide +kernel, by decide +kernel⟩

/-- Violation: not ONLY the status-related elements are copied — MessageIDBeingRespondedTo of a
C-STORE handler's status Dataset overwrites the response's (see C20_ids_neg); likewise
AffectedSOPClassUID. -/
theorem C21_optional_copied_neg :
    hasAttr .store .msgIdResp = true ∧ statusRelated Prim.store.toNat Kw.msgIdResp.toNat = false ∧
    hasAttr .store .affClass = true ∧ statusRelated Prim.store.toNat Kw.affClass.toNat = false ∧
    ((statusOnlyScp .store 0xC211 3 7
        (.fnVal (.status (.ds [(.affClass, 5), (.msgIdResp, 9), (.status, 0)])) {})).rsps.map
      (fun s => (s.r.status, s.r.msgIdResp, s.r.affClass))) = [(0, 9, some 5)] := by
  decide +kernel

/-- C-FIND: the identifier of a Pending result is attached exactly when it encodes;
N-*: the dataset is attached for a Success/Warning status of the table when it encodes. -/
theorem C21_dataset_attached (t : Table) (cx : Nat) (r : Rsp) (s : StatusVal) (d : DsVal) (o : Outcome)
    (hp : tableCat t (statusCode s) = some Category.pending) (hd : d.encodes = true) :
    findStep t cx true (some (.pair s d o)) r =
      .cont (send cx { validateStatus .find s r.clearIdent with ident := Ident.data })
        { validateStatus .find s r.clearIdent with ident := Ident.data } :=
  (findStep_known rfl hp).trans (by simp only [findKnown, hd, if_true])

example : documented .store (.status (.int 0xB007)) = some 0xB007 := rfl
example : documented .find (.status .dsWithout) = some 0xC001 := rfl
example : documented .echo (.status .wrongType) = some 0 := rfl
example : shapeOf (.ds [(.errorComment, 3), (.status, 0xA700)]) = .dsWith 0xA700 := rfl
example : (statusOnlyScp .store 0xC211 3 7 (.fnVal (.status (.ds [(.errorComment, 3), (.status, 0xA700)])) {})).rsps.map
    (fun s => (s.r.status, s.r.errorComment)) = [(0xA700, some 3)] := by decide +kernel

end PynetVerif
