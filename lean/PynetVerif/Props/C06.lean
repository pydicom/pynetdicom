import PynetVerif.Model.Outcome
import PynetVerif.Props.C27
/-!
C06 — both peers agree on how an association ended, and it always ends.

partial.  `Outcome.verdict` is the executable statement of "consistent outcomes, exactly one
terminal outcome per side, terminal event fired once"; every pair of histories recorded from real
two-AE scenarios is judged by it through the driver.  What is proved here are the logical facts
about that statement and, for the reactor model (validated in lockstep against the real reactor),
the facts the agreement rests on at the provider level: a provider that is back in Sta1 has its
kill flag set and has notified connection-close exactly once, for every schedule.  Provider-level
agreement on the two-sided product of the reactor model (two reactors, two channels) is proved in
`Props/C06Pair.lean`; the two association controllers are not modelled, and agreement at their level
is validated on real runs.
-/
namespace PynetVerif
open Outcome History Dul

theorem C06_consistent_symm (x y : Final) : consistent x y = consistent y x := by
  cases x <;> cases y <;> rfl

theorem C06_consistent_iff_eq (x y : Final) : consistent x y = true ↔ x = y := by
  cases x <;> cases y <;> simp [consistent]

theorem C06_final_exactly_one (s : Side) (f : Final) (h : s.final = some f) :
    s.established = false ∧
    ((s.released = true ∧ s.aborted = false ∧ s.rejected = false ∧ f = .released) ∨
     (s.released = false ∧ s.aborted = true ∧ s.rejected = false ∧ f = .aborted) ∨
     (s.released = false ∧ s.aborted = false ∧ s.rejected = true ∧ f = .rejected)) := by
  obtain ⟨e, r, a, j, hist⟩ := s
  cases e <;> cases r <;> cases a <;> cases j <;> simp [Side.final] at h ⊢ <;> exact h.symm

/-- the verdict is "ok" only if both sides have one terminal outcome, the outcomes agree and each
terminal event fired exactly once -/
theorem C06_verdict_ok (a b : Side) (h : Outcome.verdict a b = "ok") :
    ∃ x y, a.final = some x ∧ b.final = some y ∧ consistent x y = true ∧
      a.eventsOnce = true ∧ b.eventsOnce = true := by
  unfold Outcome.verdict at h
  -- every other branch of `verdict` returns a string different from "ok"
  split at h
  · simp at h
  · simp at h
  · rename_i x y ha hb
    refine ⟨x, y, ha, hb, ?_⟩
    cases hc : consistent x y <;> cases h1 : a.eventsOnce <;> cases h2 : b.eventsOnce <;>
      simp [hc, h1, h2] at h ⊢

/-- provider level, every schedule: once the reactor is back in Sta1 through an action, it has
stopped (kill flag) and has notified connection-close exactly once -/
theorem C06_provider_ends_once (requestor : Bool) (sched : List Step) :
    let s := run (if requestor then initRequestor else initAcceptor) sched
    s.closes ≤ 1 ∧ (s.closes = 1 → s.kill = true) :=
  C27_conn_close_at_most_once requestor sched

example : Outcome.verdict ⟨false, true, false, false, [.established, .released]⟩ ⟨false, true, false, false, [.established, .released]⟩ = "ok" ∧
    Outcome.verdict ⟨false, true, false, false, [.established, .released]⟩ ⟨false, false, true, false, [.established, .aborted]⟩ = "outcomes-disagree" ∧
    Outcome.verdict ⟨false, false, true, false, [.aborted, .aborted]⟩ ⟨false, false, true, false, [.aborted]⟩ = "requestor-terminal-event-not-once" :=
  ⟨rfl, rfl, rfl⟩

end PynetVerif
