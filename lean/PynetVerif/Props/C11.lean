import PynetVerif.Lemmas.NegoStruct
/-!
C11 — requestor and acceptor end up with the same view of the negotiated contexts.

`Nego.associate u sl rq rqRoles ac` is one association negotiation between two
pynetdicom AEs: the acceptor side (`negotiate_as_acceptor`, or
`negotiate_unrestricted` when `u`, i.e. `_config.UNRESTRICTED_STORAGE_SERVICE`)
on the requested contexts and the requestor's role items as decoded from the
A-ASSOCIATE-RQ, then `ACSE._negotiate_as_requestor` (role items applied to the
requested contexts, `negotiate_as_requestor`) on the result contexts and role
items of the A-ASSOCIATE-AC.  The wire is the identity on what the items carry:
(id, result, transfer syntax) per context, (uid, scu, scp) per role item, role
values as 0/1 bytes (`None` becomes `False`) — the byte codec itself is C01's.
`res` is what the acceptor holds, `out` what the requestor holds; "accepted"
is `result = 0` on either side, as `ACSE` fills `_accepted_cx/_rejected_cx`.

Domain: any requested list with distinct context ids (`AE.associate` numbers
them 1, 3, 5, …), any supported list, any role items.
-/
namespace PynetVerif
open Nego

section
variable {u : Bool} {sl : Nat → Bool} {rq ac : List Cx} {rqRoles : Roles} {res : List AccCx} {out : List ReqCx}

/-- Every proposed context id appears exactly once on the requestor side, as accepted or as
rejected (either mode). -/
theorem C11_once (hd : DistinctIds rq) (hok : associate u sl rq rqRoles ac = .ok (res, out)) :
    ((out.filter (·.result == 0) ++ out.filter (·.result != 0)).map (·.id)).Perm (rq.map (·.id)) := by
  obtain ⟨_, _, _, hp, _⟩ := assoc_view hd hok
  have h2 := hp.map Prod.fst
  simp only [List.map_map, Function.comp_def] at h2
  exact ((List.filter_append_perm (·.result == 0) out).map _).trans h2

/-- Both sides hold the same accepted context ids with the same abstract and transfer syntax
(either mode). -/
theorem C11_same_accepted (hd : DistinctIds rq) (hok : associate u sl rq rqRoles ac = .ok (res, out)) :
    ∀ i a t, (∃ r ∈ res, r.result = 0 ∧ r.id = i ∧ r.abs = a ∧ r.ts = t) ↔
             (∃ q ∈ out, q.result = 0 ∧ q.id = i ∧ q.abs = a ∧ q.ts = [t]) := by
  obtain ⟨_, _, hres, hout, hpair⟩ := assoc_view hd hok
  have hids : (res.map (·.id)).Perm (out.map (·.id)) := by
    have := (hres.trans hout.symm).map Prod.fst
    simpa only [List.map_map, Function.comp_def] using this
  intro i a t
  constructor
  · rintro ⟨r, hr, h0, rfl, rfl, rfl⟩
    obtain ⟨q, hq, hid⟩ := List.mem_map.mp (hids.mem_iff.mp (List.mem_map_of_mem (f := (·.id)) hr))
    obtain ⟨_, _, _, _, h3, h4, h5⟩ := hpair r hr q hq hid.symm
    exact ⟨q, hq, h4.trans h0, hid, h3, h5⟩
  · rintro ⟨q, hq, h0, rfl, rfl, hts⟩
    obtain ⟨r, hr, hid⟩ := List.mem_map.mp (hids.mem_iff.mpr (List.mem_map_of_mem (f := (·.id)) hq))
    obtain ⟨_, _, _, _, h3, h4, h5⟩ := hpair r hr q hq hid
    exact ⟨r, hr, h4.symm.trans h0, hid, h3.symm, by simpa [h5] using hts⟩

end

section complementary
variable {sl : Nat → Bool} {rq ac : List Cx} {rqRoles : Roles} {res : List AccCx} {out : List ReqCx}

/-- STATED PROPERTY over both configurations: `∀ u, … → complementary`.  It fails for `u = true`
(the two `_neg` theorems below); this is what holds: always in the default configuration, and in
the unrestricted one under the two exclusions. -/
theorem C11_complementary_partial {u : Bool} (hd : DistinctIds rq)
    (hu : u = true →
      (∀ p ∈ rq, sl p.abs = true → (rqRoles.lookup p.abs).isSome = true) ∧
      (∀ p ∈ rq, sl p.abs = false →
        rqRoles.lookup p.abs = none ∨ ∀ c, acLookup ac p.abs = some c → c.scu = none ∨ c.scp = none))
    (hok : associate u sl rq rqRoles ac = .ok (res, out)) :
    ∀ r ∈ res, ∀ q ∈ out, r.id = q.id → q.result = 0 → r.asScp = some q.asScu ∧ r.asScu = some q.asScp := by
  obtain ⟨reply, ha, -, -, hpair⟩ := assoc_view hd hok
  intro r hr q hq hid h0
  obtain ⟨p, hp, ⟨ro, hs⟩, hreq, -, hres, -⟩ := hpair r hr q hq hid
  have hr0 : r.result = 0 := hres.symm.trans h0
  -- the requestor evaluates the role item the acceptor assigned for this very context, if any
  have hq := hreq.role_outcome h0 ((applyOne_fields rqRoles p).2.1 ▸ side_lookup hd ha hp hs hr0)
  cases ro with
  | some it =>
    -- the requestor evaluates its own proposal, which is what went over the wire, against the item
    obtain ⟨a, b, hl, -, -, -, -, hc⟩ := sideOne_some (rqRolesOnWire_bool rqRoles) hs
    obtain ⟨o', ht', e1, e2⟩ := hq
    rw [applyOne_roles hl] at ht'
    rw [e1, e2]
    exact hc o' ht'
  | none =>
    -- no item: the requestor takes the default roles, and so did the acceptor outside the two exclusions
    have hdef : r.asScu = some false ∧ r.asScp = some true := by
      obtain ⟨-, hstep⟩ | ⟨rfl, hsl, ⟨_, hstep⟩, -⟩ | ⟨rfl, hsl, hstep⟩ := sideOne_ok hs
      · exact hstep.default_roles hr0 (.inl rfl)
      · exact hstep.default_roles hr0
          (.inr (((hu rfl).2 p hp hsl).imp (fun h => by rw [rqRolesOnWire_lookup, h]; rfl) id))
      · cases hstep with
        | noRole _ _ _ hl =>
          have := (hu rfl).1 p hp hsl
          rw [rqRolesOnWire_lookup, Option.map_eq_none_iff] at hl
          simp [hl] at this
    simp [hdef.1, hdef.2, hq.1, hq.2]

/-- Default configuration (`UNRESTRICTED_STORAGE_SERVICE = False`): the roles are complementary for every accepted context — the requestor may
act as SCU exactly when the acceptor may act as SCP, and vice versa.  No hypothesis on the role
items (a `None` in an item goes over the wire as `False`), on the acceptor's configuration
(`None/True/False` each) or on duplicate abstract syntaxes. -/
theorem C11_complementary_normal (hd : DistinctIds rq) (hok : associate false sl rq rqRoles ac = .ok (res, out)) :
    ∀ r ∈ res, ∀ q ∈ out, r.id = q.id → q.result = 0 → r.asScp = some q.asScu ∧ r.asScu = some q.asScp := by
  exact C11_complementary_partial (u := false) hd nofun hok

/-- STATED PROPERTY (unrestricted mode): for every accepted id,
  r.asScp = some q.asScu ∧ r.asScu = some q.asScp.
Violated for a storage-like context proposed WITHOUT a role item: `negotiate_unrestricted`
leaves the acceptor with `as_scu = as_scp = True`, sends no role item, and the requestor
defaults to SCU only — the acceptor believes it may act as SCU on a context whose requestor
is no SCP. -/
theorem C11_complementary_unrestricted_neg :
    ∃ (sl : Nat → Bool) (rq ac : List Cx) (rqRoles : Roles) (res : List AccCx) (out : List ReqCx),
      DistinctIds rq ∧ HasTs rq ∧ (∀ p ∈ rq, sl p.abs = true) ∧ associate true sl rq rqRoles ac = .ok (res, out) ∧
      ¬ (∀ r ∈ res, ∀ q ∈ out, r.id = q.id → q.result = 0 → r.asScp = some q.asScu ∧ r.asScu = some q.asScp) := by
  refine ⟨fun _ => true, [{ id := 1, abs := 7, ts := [0] }], [], [],
    [{ id := 1, abs := 7, result := 0, ts := 0, asScu := some true, asScp := some true }],
    [{ id := 1, abs := 7, result := 0, ts := [0], asScu := true, asScp := false }],
    by decide, by decide, by simp, rfl, by decide⟩

/-- Violated, too, for a NON-storage context with a proposed and supported role: the role items
of the inner `negotiate_as_acceptor` call are dropped by `negotiate_unrestricted`, so the
acceptor holds the negotiated roles (here SCU and SCP) while the requestor, seeing no role item,
defaults to SCU only. -/
theorem C11_complementary_unrestricted_nonstorage_neg :
    ∃ (sl : Nat → Bool) (rq ac : List Cx) (rqRoles : Roles) (res : List AccCx) (out : List ReqCx),
      DistinctIds rq ∧ HasTs rq ∧ (∀ p ∈ rq, sl p.abs = false) ∧ associate true sl rq rqRoles ac = .ok (res, out) ∧
      ¬ (∀ r ∈ res, ∀ q ∈ out, r.id = q.id → q.result = 0 → r.asScp = some q.asScu ∧ r.asScu = some q.asScp) := by
  refine ⟨fun _ => false, [{ id := 1, abs := 4, ts := [0] }],
    [{ id := 0, abs := 4, ts := [0], scu := some true, scp := some true }], [(4, (some true, some true))],
    [{ id := 1, abs := 4, result := 0, ts := 0, asScu := some true, asScp := some true }],
    [{ id := 1, abs := 4, result := 0, ts := [0], asScu := true, asScp := false }],
    by decide, by decide, by simp, rfl, by decide⟩

/-- Unrestricted mode is complementary exactly outside those two situations: when every
storage-like proposal comes with a role item, and every non-storage proposal either has no
role item or meets a supported context that does not negotiate roles (a `None` role). -/
theorem C11_complementary_unrestricted_partial (hd : DistinctIds rq)
    (h1 : ∀ p ∈ rq, sl p.abs = true → (rqRoles.lookup p.abs).isSome = true)
    (h2 : ∀ p ∈ rq, sl p.abs = false →
      rqRoles.lookup p.abs = none ∨ ∀ c, acLookup ac p.abs = some c → c.scu = none ∨ c.scp = none)
    (hok : associate true sl rq rqRoles ac = .ok (res, out)) :
    ∀ r ∈ res, ∀ q ∈ out, r.id = q.id → q.result = 0 → r.asScp = some q.asScu ∧ r.asScu = some q.asScp := by
  exact C11_complementary_partial hd (fun _ => ⟨h1, h2⟩) hok

end complementary

/-- C-GET style: CT proposed with roles (scu, scp) = (False, True) against an acceptor configured
(True, True); Verification without roles.  Acceptor: SCU on CT, SCP on Verification; requestor the
complement. -/
example : associate false (fun _ => false)
    [{ id := 1, abs := 6, ts := [0, 1] }, { id := 3, abs := 2, ts := [0] }, { id := 5, abs := 9, ts := [0] }]
    [(6, (some false, some true))]
    [{ id := 0, abs := 6, ts := [1, 0], scu := some true, scp := some true }, { id := 0, abs := 2, ts := [0] }]
    = .ok ([{ id := 1, abs := 6, result := 0, ts := 1, asScu := some true, asScp := some false },
            { id := 3, abs := 2, result := 0, ts := 0, asScu := some false, asScp := some true },
            { id := 5, abs := 9, result := 3, ts := 0, asScu := some false, asScp := some false }],
           [{ id := 1, abs := 6, result := 0, ts := [1], asScu := false, asScp := true },
            { id := 3, abs := 2, result := 0, ts := [0], asScu := true, asScp := false },
            { id := 5, abs := 9, result := 3, ts := [0], asScu := true, asScp := false }]) := rfl

/-- the hypotheses of the unrestricted partial theorem are satisfiable by a non-trivial input -/
example : ∃ (sl : Nat → Bool) (rq ac : List Cx) (rqRoles : Roles), DistinctIds rq ∧ rq.length = 2 ∧
    (∀ p ∈ rq, sl p.abs = true → (rqRoles.lookup p.abs).isSome = true) ∧
    (∀ p ∈ rq, sl p.abs = false →
      rqRoles.lookup p.abs = none ∨ ∀ c, acLookup ac p.abs = some c → c.scu = none ∨ c.scp = none) ∧
    ∃ out, associate true sl rq rqRoles ac = .ok out := by
  refine ⟨fun a => a == 6, [{ id := 1, abs := 6, ts := [0] }, { id := 3, abs := 2, ts := [0] }],
    [{ id := 0, abs := 2, ts := [0] }], [(6, (some true, some true))], by decide, rfl, ?_, ?_, _, rfl⟩
  · intro p hp; simp at hp; rcases hp with rfl | rfl <;> simp
  · intro p hp; simp at hp; rcases hp with rfl | rfl <;> simp

end PynetVerif
