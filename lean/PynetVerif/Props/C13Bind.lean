import PynetVerif.Model.Bind
/-!
C13 (continuation) — the acceptance policy that is consulted is the one that was bound last.

The identity check of an association request is whatever handler is bound to `EVT_USER_ID` when the request arrives
(`ACSE._check_user_identity`).  `Model/Bind.lean` models `bind()` / `unbind()`; the theorems hold for every
sequence of calls.
-/
namespace PynetVerif.Bind

theorem specI_bind (h : Nat) (rest : List Op) :
    specI (.bind h :: rest) = if rest.any isBind then specI rest else if rest.contains (.unbind h) then 0 else h := rfl
theorem specI_unbind (h : Nat) (rest : List Op) : specI (.unbind h :: rest) = specI rest := rfl

theorem specI_no_bind (ops : List Op) (h : ops.any isBind = false) : specI ops = 0 := by
  induction ops with
  | nil => rfl
  | cons o rest ih =>
    cases o with
    | bind k => simp [isBind] at h
    | unbind k => exact ih (by simpa [isBind] using h)

theorem foldl_stepI (ops : List Op) (cur : Nat) :
    ops.foldl stepI cur =
      if ops.any isBind then specI ops else (if ops.contains (.unbind cur) then 0 else cur) := by
  induction ops generalizing cur with
  | nil => simp
  | cons o rest ih =>
    cases o with
    | bind h => simp only [List.foldl_cons, stepI, List.any_cons, isBind, Bool.true_or, if_true, ih, specI_bind]
    | unbind h =>
      simp only [List.foldl_cons, stepI, List.any_cons, isBind, Bool.false_or, ih, specI_unbind]
      split
      · rfl
      · -- no later `bind`: the default is back if `cur` is unbound now or later
        by_cases hc : h = cur
        · simp [hc]
        · have : ¬ cur = h := fun e => hc e.symm
          simp [hc, this]

/-- the variant that resets on ANY unbind (the slip): bind 1, bind 2, unbind 1 leaves the default, not 2 -/
def stepIslip (_cur : Nat) : Op → Nat
  | .bind h => h
  | .unbind _ => 0

theorem slip_neg : [Op.bind 1, .bind 2, .unbind 1].foldl stepIslip 0 = 0 ∧ specI [Op.bind 1, .bind 2, .unbind 1] = 2 := by
  decide

end PynetVerif.Bind

namespace PynetVerif
open PynetVerif.Bind

/-- **which handler is bound** after any sequence of `bind` / `unbind` calls on an intervention event: the one of
the last `bind`, unless that very handler was unbound afterwards; unbinding any other handler never matters -/
theorem C13_bound_handler_spec (ops : List Op) : runI ops = specI ops := by
  unfold runI
  rw [foldl_stepI]
  cases hb : ops.any isBind with
  | true => rfl
  | false => simp [specI_no_bind ops hb]

theorem C13_unbind_other_is_noop (a b : List Op) (h : Nat) (hne : runI a ≠ h) :
    runI (a ++ [.unbind h] ++ b) = runI (a ++ b) := by
  unfold runI at hne ⊢
  simp only [List.foldl_append, List.foldl_cons, List.foldl_nil, stepI]
  have : ¬ h = List.foldl stepI 0 a := fun e => hne e.symm
  simp [this]

/-- a server whose policy handler is swapped (bind the replacement, unbind the stale one) keeps the replacement;
the variant that resets on any unbind loses the policy on exactly that sequence -/
theorem C13_unbind_any_resets_neg :
    [Op.bind 1, .bind 2, .unbind 1].foldl stepIslip 0 = 0 ∧ runI [Op.bind 1, .bind 2, .unbind 1] = 2 := by decide

/-- for notification events a handler stays bound until it is itself unbound -/
theorem C13_notification_membership (l : List Nat) (h : Nat) (o : Op) :
    (h ∈ stepN l o) = (match o with
      | .bind k => if k = h then True else h ∈ l
      | .unbind k => if k = h then False else h ∈ l) := by
  cases o with
  | bind k =>
    simp only [stepN]
    by_cases hk : k = h
    · subst hk
      split <;> simp_all
    · have : ¬ h = k := fun e => hk e.symm
      split <;> simp [this]
  | unbind k =>
    have : (h = k) = (k = h) := propext eq_comm
    simp only [stepN, List.mem_filter, bne_iff_ne, ne_eq, this]
    by_cases hk : k = h <;> simp [hk]

example : runI [.bind 3, .unbind 4, .bind 5, .unbind 3, .unbind 9] = 5 ∧ runI [.bind 3, .unbind 3, .unbind 7] = 0 ∧
    runN [.bind 1, .bind 2, .bind 1, .unbind 1, .bind 3] = [2, 3] := by decide

end PynetVerif
