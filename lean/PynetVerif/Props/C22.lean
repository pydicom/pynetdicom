import PynetVerif.Lemmas.ScpServices
/-!
C22 — C-GET / C-MOVE sub-operation counters stay consistent.

All theorems are about `Scp.gmLoop`, the model of the `for` loop (plus the code
after it) shared by `_get_scp` and `_move_scp`, entered with `N` announced
sub-operations (`store_results = [N, 0, 0, 0]`), for EVERY list of generator
items (any yields, raises, returns, association events), every status table
`t` satisfying `RetrieveTable` (proved for the two real tables, regenerated from
status.py: `retrieveTable_get`, `retrieveTable_move`, restated as `example`s at the end of the
file — the runner's audit of `theorem C22_…` does not list them), every initial response
primitive and association state.
`C22_get_enters_loop` / `C22_move_enters_loop` show that the modelled SCPs are
this loop exactly when a valid count was announced; `C22_sum_get/_move` restate the
first theorem for the whole SCPs and every handler.

The property's quantifier lists the sub-operation outcomes "success, warning,
failure, exception"; `Quantified` is that hypothesis.  The one further category
present in STORAGE_SERVICE_CLASS_STATUS — Cancel 0xFE00, which no conformant
Storage SCP sends — is outside it: `C22_sum_cancel_outcome_witness` records
that such a reply decrements `remaining` without incrementing any counter.
-/
namespace PynetVerif
open Scp
open Status (Category)

/-- Every Pending response of the loop satisfies remaining + failed + warning + completed = N. -/
theorem C22_sum {t : Table} (ht : RetrieveTable t) (p : Prim) (cx n : Nat) (exc : Int) (items : List Item)
    (st : St) (r0 : Rsp) (hq : ∀ x ∈ stepVals items, Quantified x) :
    ∀ s ∈ (retrieveOut p t cx n exc items st r0).rsps, isPending t s = true →
      ∃ c, s.r.ctr? = some c ∧ c.rem + c.fail + c.warn + c.comp = n := by
  refine gmLoop_induct p t cx n exc false Quantified
    (fun g out => g.ctr.sum = n → ∀ s ∈ out.rsps, isPending t s = true → ∃ c, s.r.ctr? = some c ∧ c.sum = n)
    (fun _ _ h => h) ?tail ?crash ?down ?final ?skip ?sub items hq st _ nofun rfl
  case tail =>
    intro st g _ _ s hs hp
    rw [mem_gmTail hs, isPending_gmFinal ht] at hp
    cases hp
  case crash => intro _ _ _ _ _ _ hs; cases hs
  case down => intro _ _ _ _ hs; cases hs
  case final =>
    intro g v s d o r _ _ _ _ hspec _ x hx hp
    rw [List.mem_singleton.mp hx, hspec.isPending ht] at hp
    cases hp
  case skip => intro g v s d o o' _ _ ih; exact ih
  case sub =>
    intro g v s d o op g' o' hv hu hrem hsub ih hsum x hx hp
    have hs' : g'.ctr.sum = n := ((hsub.counters hrem).2.2 (unpack_quantified hv hu)).trans hsum
    rcases List.mem_cons.mp hx with rfl | hx
    · exact ⟨g'.ctr, hsub.ctr, hs'⟩
    · exact ih hs' x hx hp

/-- Over the Pending responses in the order sent, remaining never increases and failed,
warning, completed never decrease (any sub-operation outcomes, any behaviour). -/
theorem C22_monotone {t : Table} (ht : RetrieveTable t) (p : Prim) (cx n : Nat) (exc : Int) (items : List Item)
    (st : St) (r0 : Rsp) :
    ((retrieveOut p t cx n exc items st r0).rsps.filter (isPending t)).Pairwise Snap.later := by
  -- an output without Pending responses
  have none : ∀ (c : Ctr) (l : List Snap), (∀ s ∈ l, isPending t s = false) →
      (∀ s ∈ l, isPending t s = true → ∃ c', s.r.ctr? = some c' ∧ c.later c') ∧
      (l.filter (isPending t)).Pairwise Snap.later := by
    intro c l h
    refine ⟨fun s hs hp => absurd hp (by simp [h s hs]), ?_⟩
    rw [List.filter_eq_nil_iff.mpr fun s hs => by simp [h s hs]]
    exact .nil
  refine (gmLoop_induct p t cx n exc false (fun _ => True)
    (fun g out => (∀ s ∈ out.rsps, isPending t s = true → ∃ c, s.r.ctr? = some c ∧ g.ctr.later c) ∧
      (out.rsps.filter (isPending t)).Pairwise Snap.later)
    (fun _ _ h => h) ?tail ?crash ?down ?final ?skip ?sub items (fun _ _ => trivial) st _ nofun).2
  case tail =>
    intro st g _
    exact none _ _ fun s hs => by rw [mem_gmTail hs]; exact isPending_gmFinal ht cx n g
  case crash => intro g _ _ _; exact none _ _ fun _ hs => nomatch hs
  case down => intro g _; exact none _ _ fun _ hs => nomatch hs
  case final =>
    intro g v s d o r _ _ _ _ hspec
    exact none _ _ fun x hx => by rw [List.mem_singleton.mp hx]; exact hspec.isPending ht cx
  case skip => intro g v s d o o' _ _ ih; exact ih
  case sub =>
    intro g v s d o op g' o' _ _ hrem hsub ih
    have hl : g.ctr.later g'.ctr := (hsub.counters hrem).1
    -- whatever is later than the new counters is later than the old ones
    have hfrom : ∀ x ∈ o'.rsps, isPending t x = true → ∃ c, x.r.ctr? = some c ∧ g'.ctr.later c ∧ g.ctr.later c := by
      intro x hx hp
      obtain ⟨c, h1, h2⟩ := ih.1 x hx hp
      exact ⟨c, h1, h2, Nat.le_trans h2.1 hl.1, Nat.le_trans hl.2.1 h2.2.1, Nat.le_trans hl.2.2.1 h2.2.2.1,
        Nat.le_trans hl.2.2.2 h2.2.2.2⟩
    constructor
    · intro x hx hp
      rcases List.mem_cons.mp hx with rfl | hx
      · exact ⟨g'.ctr, hsub.ctr, hl⟩
      · obtain ⟨c, h1, _, h2⟩ := hfrom x hx hp
        exact ⟨c, h1, h2⟩
    · show (List.filter (isPending t) (⟨cx, g'.rsp⟩ :: o'.rsps)).Pairwise Snap.later
      rw [List.filter_cons_of_pos (hsub.isPending cx), List.pairwise_cons]
      refine ⟨fun x hx => ?_, ih.2⟩
      obtain ⟨c, h1, h2, _⟩ := hfrom x (List.mem_filter.mp hx).1 (List.mem_filter.mp hx).2
      exact ⟨g'.ctr, c, hsub.ctr, h1, h2⟩

/-- Every non-Pending response with a status the table knows (the computed final response and
the handler's Cancel / Failure / Warning / Success finals) reports
completed + failed + warning ≤ N.  (A status unknown to the table is sent with whatever the
primitive held — see `C20`.) -/
theorem C22_final_le (t : Table) (p : Prim) (cx n : Nat) (exc : Int) (items : List Item)
    (st : St) (r0 : Rsp) :
    ∀ s ∈ (retrieveOut p t cx n exc items st r0).rsps, isPending t s = false →
      tableCat t s.r.status ≠ none →
      ∃ f w c, s.r.fail = some f ∧ s.r.warn = some w ∧ s.r.comp = some c ∧ c + f + w ≤ n := by
  refine gmLoop_induct p t cx n exc false (fun _ => True)
    (fun g out => g.ctr.sum ≤ n → ∀ s ∈ out.rsps, isPending t s = false → tableCat t s.r.status ≠ none →
      ∃ f w c, s.r.fail = some f ∧ s.r.warn = some w ∧ s.r.comp = some c ∧ c + f + w ≤ n)
    (fun _ _ h => h) ?tail ?crash ?down ?final ?skip ?sub items (fun _ _ => trivial) st _ nofun
    (Nat.le_refl n)
  case tail =>
    intro st g _ hsum s hs _ _
    rw [mem_gmTail hs, gmFinal_eq]
    exact ⟨_, _, _, rfl, rfl, rfl, by simp only [Ctr.sum] at hsum; omega⟩
  case crash => intro _ _ _ _ _ _ hs; cases hs
  case down => intro _ _ _ _ hs; cases hs
  case final =>
    intro g v s d o r _ _ _ _ hspec hsum x hx _ hk
    rw [List.mem_singleton.mp hx] at hk ⊢
    simp only [Ctr.sum] at hsum
    cases hspec with
    | unknown hc => rw [validateStatus_status] at hk; exact absurd hc hk
    | cancel hc => exact ⟨_, _, _, rfl, rfl, rfl, by omega⟩
    | failWarn hc => exact ⟨_, _, _, rfl, rfl, rfl, by omega⟩
    | success hc => rw [gmSuccess_eq]; exact ⟨_, _, _, rfl, rfl, rfl, by omega⟩
  case skip => intro g v s d o o' _ _ ih; exact ih
  case sub =>
    intro g v s d o op g' o' _ _ hrem hsub ih hsum x hx hp hk
    rcases List.mem_cons.mp hx with rfl | hx
    · rw [hsub.isPending] at hp; cases hp
    · exact ih (Nat.le_trans (hsub.counters hrem).2.1 hsum) x hx hp hk

/-- Whenever a response carries a computed Failed SOP Instance UID List, the list is exactly
`failedSpec` of the sub-operations performed: the SOP Instance UIDs of the instances whose
C-STORE sub-operation failed (Failure status or exception), in order, with the empty UID for
every invalid (non-Dataset) object.  Only final responses carry such a list. -/
theorem C22_failed_list (p : Prim) (t : Table) (cx n : Nat) (exc : Int) (items : List Item)
    (st : St) (r0 : Rsp) :
    ∀ s ∈ (retrieveOut p t cx n exc items st r0).rsps, ∀ l, s.r.ident = Ident.failed l →
      l = failedSpec (retrieveOut p t cx n exc items st r0).subops := by
  -- a computed list is the list of the state the response was made in
  have fromState : ∀ (g : GmSt) (i : Ident) (l : List (Option Nat)), (i = Ident.none ∨ i = Ident.handler ∨
      i = Ident.failed g.failed) → i = Ident.failed l → l = g.failed := by
    intro g i l hi hl
    subst hl
    rcases hi with h | h | h <;> cases h
    rfl
  have key := gmLoop_induct p t cx n exc false (fun _ => True)
    (fun g out => ∀ pre, g.failed = failedSpec pre → ∀ s ∈ out.rsps, ∀ l, s.r.ident = Ident.failed l →
      l = failedSpec (pre ++ out.subops))
    (fun _ _ h => h) ?tail ?crash ?down ?final ?skip ?sub items (fun _ _ => trivial) st
    { ctr := { rem := n }, rsp := r0 } nofun [] rfl
  · exact key
  case tail =>
    intro st g _ pre hf s hs l hl
    rw [gmTail_subops, List.append_nil, ← hf]
    rw [mem_gmTail hs] at hl
    refine fromState g _ l ?_ hl
    rw [gmFinal_eq]; dsimp only; split <;> simp
  case crash => intro _ _ _ _ _ _ _ hs; cases hs
  case down => intro _ _ _ _ _ hs; cases hs
  case final =>
    intro g v s d o r _ _ _ hid hspec pre hf x hx l hl
    rw [List.mem_singleton.mp hx] at hl
    rw [send_subops, List.append_nil, ← hf]
    refine fromState g _ l ?_ hl
    have hfi : finalIdent d g.failed = Ident.handler ∨ finalIdent d g.failed = Ident.failed g.failed := by
      unfold finalIdent; split <;> simp
    cases hspec with
    | unknown hc => left; exact (validateStatus_ident p s g.rsp).trans hid
    | cancel hc => right; exact hfi
    | failWarn hc => right; exact hfi
    | success hc => rw [gmSuccess_eq]; dsimp only; split <;> simp
  case skip => intro g v s d o o' _ _ ih; exact ih
  case sub =>
    intro g v s d o op g' o' _ _ _ hsub ih pre hf x hx l hl
    rcases List.mem_cons.mp hx with rfl | hx
    · rw [hsub.ident] at hl; cases hl
    · have := ih (pre ++ [op]) (hsub.failed hf) x hx l hl
      simpa using this

/-- Final status.  When the handler only yields Pending results and optionally its own final
(Success, None), every non-Pending response of the loop — the final response computed when the
generator is exhausted, yields more than N results or is stopped by the peer's abort/release
request, or the response to the handler's Success — has the prescribed status for the failed and
warning counters it reports, and carries a data set (the failed-UID list) iff that status is not
Success.  (The handler's own Success is rewritten to 0xB000 when something failed or warned; it
cannot meet failed = N because the loop `break`s to the computed final as soon as remaining = 0.) -/
theorem C22_final_status {t : Table} (ht : RetrieveTable t) (p : Prim) (cx n : Nat) (exc : Int)
    (items : List Item) (st : St) (r0 : Rsp) (hq : ∀ x ∈ stepVals items, PendingOrSuccessYield t x) :
    ∀ s ∈ (retrieveOut p t cx n exc items st r0).rsps, isPending t s = false →
      ∃ f w, s.r.fail = some f ∧ s.r.warn = some w ∧ s.r.status = finalStatusSpec n f w ∧
        (s.r.ident = Ident.none ↔ f = 0 ∧ w = 0) := by
  refine gmLoop_induct p t cx n exc false (PendingOrSuccessYield t)
    (fun g out => g.ctr.sum ≤ n → ∀ s ∈ out.rsps, isPending t s = false →
      ∃ f w, s.r.fail = some f ∧ s.r.warn = some w ∧ s.r.status = finalStatusSpec n f w ∧
        (s.r.ident = Ident.none ↔ f = 0 ∧ w = 0))
    (fun _ _ h => h) ?tail ?crash ?down ?final ?skip ?sub items hq st _ nofun (Nat.le_refl n)
  case tail =>
    intro st g _ _ s hs _
    rw [mem_gmTail hs, gmFinal_eq]
    exact ⟨_, _, rfl, rfl, rfl, ident_none_iff⟩
  case crash => intro _ _ _ _ _ _ hs; cases hs
  case down => intro _ _ _ _ hs; cases hs
  case final =>
    intro g v s d o r hv hu hrem _ hspec hsum x hx _
    rw [List.mem_singleton.mp hx]
    -- the handler's own final is an int the table calls Success, that is 0
    obtain ⟨c, rfl, hcat⟩ := pendingYield_unpack hv hu
    have hc : tableCat t c = some Category.success := hcat.resolve_left hspec.status.1
    rw [hspec.eq_success hc, gmSuccess_eq]
    refine ⟨_, _, rfl, rfl, ?_, ?_⟩
    · -- `break` comes before failed can reach N: something remains
      show (if g.ctr.fail = 0 ∧ g.ctr.warn = 0 then c else 0xB000) = finalStatusSpec n g.ctr.fail g.ctr.warn
      simp only [Ctr.sum] at hsum
      unfold finalStatusSpec
      rw [ht.successOnly c hc, if_neg (show ¬ g.ctr.fail = n by omega)]
    · exact ident_none_iff
  case skip => intro g v s d o o' _ _ ih; exact ih
  case sub =>
    intro g v s d o op g' o' _ _ hrem hsub ih hsum x hx hp
    rcases List.mem_cons.mp hx with rfl | hx
    · rw [hsub.isPending] at hp; cases hp
    · exact ih (Nat.le_trans (hsub.counters hrem).2.1 hsum) x hx hp

/-- A final status the handler yields itself while sub-operations remain (loop body run on
`(c, d)`, association established) — Cancel: sent as is with the four counters as they stand. -/
theorem C22_explicit_cancel (p : Prim) (t : Table) (cx : Nat) (exc c : Int) (d : DsVal) (o : Outcome)
    (g : GmSt) (hrem : g.ctr.rem ≠ 0) (hcat : tableCat t c = some Category.cancel) :
    ∃ r, gmStep p t cx exc true (some (.pair (.int c) d o)) g = .stop (send cx r) ∧
      r.status = c ∧ r.ctr? = some g.ctr :=
  ⟨_, gmStep_known (s := .int c) rfl hrem hcat, rfl, by simp [Rsp.ctr?, Rsp.setCounters]⟩

/-- … Failure or Warning: sent as is; the remaining sub-operations are added to failed (so
completed + failed + warning = N when the sum invariant holds); remaining is left as last reported. -/
theorem C22_explicit_failure_warning (p : Prim) (t : Table) (cx : Nat) (exc c : Int) (d : DsVal)
    (o : Outcome) (g : GmSt) (hrem : g.ctr.rem ≠ 0)
    (hcat : tableCat t c = some Category.failure ∨ tableCat t c = some Category.warning) :
    ∃ r, gmStep p t cx exc true (some (.pair (.int c) d o)) g = .stop (send cx r) ∧
      r.status = c ∧ r.fail = some (g.ctr.fail + g.ctr.rem) ∧ r.warn = some g.ctr.warn ∧
      r.comp = some g.ctr.comp ∧ r.rem = g.rsp.rem := by
  rcases hcat with hcat | hcat <;> exact ⟨_, gmStep_known (s := .int c) rfl hrem hcat, rfl, rfl, rfl, rfl, rfl⟩

/-- … a status the table does not know: sent as is with whatever counters the primitive held. -/
theorem C22_explicit_unknown (p : Prim) (t : Table) (cx : Nat) (exc c : Int) (d : DsVal) (o : Outcome)
    (g : GmSt) (hrem : g.ctr.rem ≠ 0) (hcat : tableCat t c = none) :
    gmStep p t cx exc true (some (.pair (.int c) d o)) g =
      .stop (send cx { g.rsp with status := c, ident := Ident.none }) :=
  gmStep_unknown (s := .int c) rfl hrem hcat

/-- `_get_scp` with a generator whose first value is a valid count `c` is the loop with N = c. -/
theorem C22_get_enters_loop (t : Table) (cx m c : Nat) (e : Ev) (rest : List Item)
    (h1 : 1 ≤ c) (h2 : c ≤ 65535) :
    getScp t cx m (.gen (.yield (.status (.int c)) e :: rest)) =
      retrieveOut .get t cx c 0xC411 rest (({} : St).apply e) { msgIdResp := m } := by
  have a : ¬ ((c : Int) < 1) := by omega
  have b : ¬ ((c : Int) > 65535) := by omega
  simp [getScp, asCount, getCounted, a, b, retrieveOut]

/-- `_move_scp` with a generator yielding a usable destination and then a valid count `c`
(the association staying established) is the loop with N = c. -/
theorem C22_move_enters_loop (t : Table) (cx m c : Nat) (e1 e2 : Ev) (rest : List Item)
    (h1 : 1 ≤ c) (h2 : c ≤ 65535) (ha1 : e1.hAbort = false) (ha2 : e2.hAbort = false) :
    moveScp t cx m (.gen (.yield (.dest .ok) e1 :: .yield (.status (.int c)) e2 :: rest)) =
      retrieveOut .move t cx c 0xC511 rest ((({} : St).apply e1).apply e2) { msgIdResp := m } := by
  have a : ¬ ((c : Int) < 1) := by omega
  have b : ¬ ((c : Int) > 65535) := by omega
  simp [moveScp, moveAfterDest, asDest, asCount, St.apply, ha1, ha2, a, b, retrieveOut]

theorem Scp.RetrieveCase.sum {p : Prim} {exc : Int} {k : Nat} {t : Table} {cx m : Nat} {h : Handler}
    {a : Option Nat} {out : Out} (hc : RetrieveCase p exc k t cx m h a out) (ht : RetrieveTable t)
    (hq : ∀ x ∈ stepVals (h.itemsFrom k), Quantified x) :
    ∀ s ∈ out.rsps, isPending t s = true →
      ∃ n c, a = some n ∧ s.r.ctr? = some c ∧ c.rem + c.fail + c.warn + c.comp = n := by
  intro s hs hp
  cases hc with
  | aborted _ => cases hs
  | one r _ hr =>
    rw [List.mem_singleton.mp hs, isPending_iff] at hp
    rcases ht.pending _ hp with h | h <;> (rw [h] at hr; cases hr)
  | loop n st ha _ =>
    obtain ⟨c, h1, h2⟩ := C22_sum ht p cx n exc _ st _ hq s hs hp
    exact ⟨n, c, ha, h1, h2⟩

/-- `_get_scp`, any handler whatsoever: every Pending response carries four counters that add
up to the announced number of sub-operations. -/
theorem C22_sum_get {t : Table} (ht : RetrieveTable t) (cx m : Nat) (h : Handler)
    (hq : ∀ x ∈ stepVals (h.itemsFrom 1), Quantified x) :
    ∀ s ∈ (getScp t cx m h).rsps, isPending t s = true →
      ∃ n c, announcedGet h = some n ∧ s.r.ctr? = some c ∧ c.rem + c.fail + c.warn + c.comp = n :=
  (getScp_case t cx m h).sum ht hq

/-- The same for `_move_scp`. -/
theorem C22_sum_move {t : Table} (ht : RetrieveTable t) (cx m : Nat) (h : Handler)
    (hq : ∀ x ∈ stepVals (h.itemsFrom 2), Quantified x) :
    ∀ s ∈ (moveScp t cx m h).rsps, isPending t s = true →
      ∃ n c, announcedMove h = some n ∧ s.r.ctr? = some c ∧ c.rem + c.fail + c.warn + c.comp = n :=
  (moveScp_case t cx m h).sum ht hq

/-- the sub-operation whose (non-conformant) C-STORE reply has the Cancel status 0xFE00 — outside
the property's quantifier "success, warning, failure, exception" -/
def c22CancelOutcome : Handler :=
  .gen [.yield (.status (.int 2)) {},
        .yield (.pair (.int 0xFF00) (.ds (some 5) false none true true) .cancel) {}]

/-- Documented limit of the quantifier: a C-STORE sub-operation reply with the Cancel status
(the only category of STORAGE_SERVICE_CLASS_STATUS besides Success/Warning/Failure) decrements
remaining without incrementing any counter: N = 2, Pending response 1 + 0 + 0 + 0. -/
theorem C22_sum_cancel_outcome_witness :
    ∃ s ∈ (getScp (tableNamed "QR_GET_SERVICE_CLASS_STATUS") 3 7 c22CancelOutcome).rsps,
      isPending (tableNamed "QR_GET_SERVICE_CLASS_STATUS") s = true ∧
      announcedGet c22CancelOutcome = some 2 ∧
      s.r.ctr? = some { rem := 1, fail := 0, warn := 0, comp := 0 } := by
  exact ⟨⟨3, { status := 0xFF00, msgIdResp := 7, rem := some 1, fail := some 0, warn := some 0,
                comp := some 0 }⟩, by decide +kernel⟩

example : RetrieveTable (tableNamed "QR_GET_SERVICE_CLASS_STATUS") := retrieveTable_get
example : RetrieveTable (tableNamed "QR_MOVE_SERVICE_CLASS_STATUS") := retrieveTable_move

/-- N = 3: success, failure (UID 2), invalid object; generator exhausted -/
def c22Example : List Item :=
  [.yield (.pair (.int 0xFF00) (.ds (some 1) false none true true) .success) {},
   .yield (.pair (.int 0xFF00) (.ds (some 2) false none true true) .failure) {},
   .yield (.pair (.int 0xFF00) .junkTruthy .success) {}]

example : ∀ x ∈ stepVals c22Example, Quantified x := by
  intro x hx
  simp only [c22Example, stepVals, List.mem_cons, List.not_mem_nil, or_false] at hx
  rcases hx with rfl | rfl | rfl <;> simp [Quantified]
example : ∀ x ∈ stepVals c22Example, PendingOrSuccessYield (tableNamed "QR_GET_SERVICE_CLASS_STATUS") x := by
  intro x hx
  simp only [c22Example, stepVals, List.mem_cons, List.not_mem_nil, or_false] at hx
  rcases hx with rfl | rfl | rfl <;> (left; decide +kernel)
example :
    ((retrieveOut .get (tableNamed "QR_GET_SERVICE_CLASS_STATUS") 3 3 0xC411 c22Example {} { msgIdResp := 7 }).rsps.map
      (fun s => (s.r.status, s.r.rem, s.r.fail, s.r.warn, s.r.comp, s.r.ident))) =
    [(0xFF00, some 2, some 0, some 0, some 1, Ident.none),
     (0xFF00, some 1, some 1, some 0, some 1, Ident.none),
     (0xFF00, some 0, some 2, some 0, some 1, Ident.none),
     (0xB000, some 0, some 2, some 0, some 1, Ident.failed [some 2, none])] := by rfl

end PynetVerif
