import PynetVerif.Lemmas.PairSim
import PynetVerif.Lemmas.PairAbsReach
/-!
C06 on the two-sided product model (`Model/Pair.lean`: two copies of the reactor model of
`Model/Dul.lean`, composed through two FIFO lossless channels; the acceptor's reactor comes into
existence when the requestor's AE-1 connects; `Env.peer` steps do not exist — the peer IS the other
reactor).  Every theorem quantifies over every schedule of the product.
-/
namespace PynetVerif
open Dul Fsm PairL

/-- **The wire is FIFO and lossless, in both directions, for every schedule.**  What a side has been
delivered — the PDU events it has READ (`readEvts`: dispatched, or queued by `readTransport`),
followed by what is still unread in its inbox — is exactly the image of the first `seen` PDUs the
other side has put on the wire; in particular what it has read is, in order, a prefix of the image
of what the other side has sent.  (The cross-side wire clause the C27 check observes on real runs.) -/
theorem C06_wire_fifo (sched : List PStep) :
    let p := Pair.run Pair.init sched
    (readEvts p.a ++ wireEvts p.a.inbox = delivered p.r p.rSeen ∧ readEvts p.a <+: sentEvts p.r) ∧
    (readEvts p.r ++ wireEvts p.r.inbox = delivered p.a p.aSeen ∧ readEvts p.r <+: sentEvts p.a) := by
  intro p
  have h : Fifo p := List.foldlRecOn sched Pair.step fifo_init fun q hq st _ => fifo_step q st hq
  have pre : ∀ (snd rcv : St) (seen : Nat), Chan snd rcv seen → readEvts rcv <+: sentEvts snd := by
    intro snd rcv seen c
    have h1 : readEvts rcv <+: lineEvts rcv := List.prefix_append _ _
    rw [c.eq] at h1
    exact h1.trans (delivered_prefix snd seen)
  exact ⟨⟨h.ra.eq, pre _ _ _ h.ra⟩, ⟨h.ar.eq, pre _ _ _ h.ar⟩⟩

/-- in particular the PDU events a side has DISPATCHED are a prefix of what the other side sent -/
theorem C06_dispatched_prefix (sched : List PStep) :
    let p := Pair.run Pair.init sched
    dispatchedPdus p.a <+: sentEvts p.r ∧ dispatchedPdus p.r <+: sentEvts p.a := by
  intro p
  obtain ⟨⟨_, h1⟩, ⟨_, h2⟩⟩ := C06_wire_fifo sched
  exact ⟨(List.prefix_append _ _).trans h1, (List.prefix_append _ _).trans h2⟩

/-- the reactor has dispatched an event through the action `a` (its log says so) -/
def didAct (s : St) (a : Action) : Prop := ∃ d ∈ s.log, d.action = some a

theorem emits_relRp (a : Action) (h : mayEmit a .sendRelRp) : a = .AR_4 ∨ a = .AR_9 := by
  revert h; unfold mayEmit; cases a <;> decide

theorem wireOf_13 {f : Eff} {alt : Bool} (h : wireOf f = .pdu 13 alt) : f = .sendRelRp := by
  cases f <;> simp [wireOf] at h ⊢

theorem release_confirm_caused {snd rcv : St} (hpre : dispatchedPdus rcv <+: sentEvts snd) (hl : LogOk snd)
    (hr : LogOk rcv) (h : didAct rcv .AR_3) : didAct snd .AR_4 ∨ didAct snd .AR_9 := by
  obtain ⟨d, hd, hda⟩ := h
  have hrow := hr.rows d hd
  rw [hda] at hrow
  have he : d.evt = 13 := (rowOk2 hrow.symm).ar3 rfl
  obtain ⟨f, alt, hw, d', hd', a, ha, hem⟩ := caused hpre hl hd (by rw [he]; rfl)
  rw [he] at hw
  rw [wireOf_13 hw] at hem
  rcases emits_relRp a hem with h | h <;> subst h
  · exact Or.inl ⟨d', hd', ha⟩
  · exact Or.inr ⟨d', hd', ha⟩

/-- **No release confirmation without a release response**, for every schedule and at every point of
it: if a side has dispatched AR-3 (it received A-RELEASE-RP: its release is confirmed), the other
side has, before, dispatched AR-4 or AR-9 (it answered a release request).  (As the statement holds
after every prefix of a schedule, it holds at the moment AR-3 is dispatched: "before".) -/
theorem C06_no_release_confirm_without_response (sched : List PStep) :
    let p := Pair.run Pair.init sched
    (didAct p.r .AR_3 → didAct p.a .AR_4 ∨ didAct p.a .AR_9) ∧
    (didAct p.a .AR_3 → didAct p.r .AR_4 ∨ didAct p.r .AR_9) := by
  intro p
  obtain ⟨ha, hr⟩ := C06_dispatched_prefix sched
  have h0 : LogOk Pair.init.r ∧ LogOk Pair.init.a :=
    ⟨⟨(fun _ h => nomatch h), (fun _ h => nomatch h)⟩, ⟨(fun _ h => nomatch h), (fun _ h => nomatch h)⟩⟩
  have hl : LogOk p.r ∧ LogOk p.a := List.foldlRecOn (motive := fun q => LogOk q.r ∧ LogOk q.a) sched Pair.step h0
    fun q hq st _ => (side_step (fun s st hal => (own_step s st hal).logOk) (fun _ _ => logOk_of_eq rfl rfl) q st).imp (· hq.1) (· hq.2)
  exact ⟨release_confirm_caused hr hl.2 hl.1, release_confirm_caused ha hl.1 hl.2⟩

/-- **Provider-level agreement.**  For every schedule of the product model in which both local users
are synchronously admissible (`Pair.runOk`: `Dul.stepOkSync` for every `.r st` / `.a st` step — a
primitive is issued only at a quiescent point of its reactor and only if PS3.8 defines its event for
the provider's current state, ARTIM expires only at a quiescent point) and no send failure is
injected (`breakConn`): if both reactors have ended in an orderly way (kill flag set, thread not
dead) and neither local user aborted while a confirmation it had asked for was outstanding
(no AA-1 dispatched in Sta5, Sta7 or Sta11), then the two provider outcomes agree — both `released`,
both `rejected`, or both `aborted`.  Deliveries, reactor micro-steps, ARTIM expiry, connect failure,
P-DATA in any number, release collisions, aborts in every other state, and every interleaving of
these are covered.  The hypotheses on aborts and on send failures cannot be dropped: of the
`C06_agreement_neg_…` witnesses below four abort while a confirmation is outstanding and one injects
a send failure (all five are synchronously admissible: that hypothesis is not shown necessary). -/
theorem C06_provider_agreement (sched : List PStep) (hok : Pair.runOk Pair.init sched = true)
    (hnb : sched.all Pair.noBreak = true) :
    let p := Pair.run Pair.init sched
    ended p.r = true → ended p.a = true → abortedAwaiting p.r = false → abortedAwaiting p.a = false →
    (provOutcome p.r).agree (provOutcome p.a) = true := by
  intro p her hea har haa
  have hg : Abs.Good Abs.Reached p :=
    Abs.good_run Abs.reached_spec.1 Abs.reached_spec.2.1 sched (by rw [runAdm_iff, hok, hnb]; rfl)
  rcases hg.abs with hR | hab | hab
  · have hagree := Abs.reached_spec.2.2 _ hR
    unfold Abs.agreeEnded at hagree
    unfold ended at her hea
    simp only [Bool.and_eq_true] at her hea
    have hk : ((Abs.alpha p).r.kill && (Abs.alpha p).a.kill) = true := by
      show (p.r.kill && p.a.kill) = true
      rw [her.1, hea.1]; rfl
    rw [hk] at hagree
    have hagree' : (Abs.outcome (Abs.alpha p).r).agree (Abs.outcome (Abs.alpha p).a) = true := by
      simpa using hagree
    exact hagree'
  · rw [har] at hab; cases hab
  · rw [haa] at hab; cases hab

/-- under the same hypotheses neither reactor thread ever dies (C05 on both sides of the product) -/
theorem C06_pair_never_dead (sched : List PStep) (hok : Pair.runOk Pair.init sched = true)
    (hnb : sched.all Pair.noBreak = true) :
    (Pair.run Pair.init sched).r.dead = false ∧ (Pair.run Pair.init sched).a.dead = false := by
  have h : PInv (Pair.run Pair.init sched) := pinv_run sched _ (by rw [runAdm_iff, hok, hnb]; rfl) pinv_init
  exact ⟨h.r.inv.1, h.a.inv.1⟩

namespace PairEx
open Pair

/-- association request, transport connection, A-ASSOCIATE-RQ delivered, accepted, A-ASSOCIATE-AC delivered -/
def estab : List PStep :=
  [.r (.env (.local .assocRq)), .r .a, .r .b, .r .a, .r .b, .a .a, .a .b, .deliverRA, .a .a, .a .b,
   .a (.env (.local .accept)), .a .a, .a .b, .deliverAR, .r .a, .r .b]

/-- P-DATA both ways -/
def data : List PStep :=
  [.r (.env (.local .pdata)), .r .a, .r .b, .deliverRA, .a .a, .a .b,
   .a (.env (.local .pdata)), .a .a, .a .b, .deliverAR, .r .a, .r .b]

/-- release requested by the requestor, answered by the acceptor; the acceptor sees the close -/
def release : List PStep :=
  [.r (.env (.local .releaseRq)), .r .a, .r .b, .deliverRA, .a .a, .a .b,
   .a (.env (.local .releaseRp)), .a .a, .a .b, .deliverAR, .r .a, .r .b, .deliverRA, .a .a, .a .b]

/-- what a schedule leads to: admissible, free of injected send failures, and per side
(state, ended, outcome, aborted-while-awaiting-a-confirmation) -/
structure SideSum where
  fsm : Nat
  ended : Bool
  outcome : ProvOutcome
  abortedAwaiting : Bool
  deriving DecidableEq, Repr

def sideSum (s : St) : SideSum := ⟨s.fsm, ended s, provOutcome s, abortedAwaiting s⟩

def summary (sched : List PStep) : Bool × Bool × SideSum × SideSum :=
  let p := run init sched
  (runOk init sched, sched.all noBreak, sideSum p.r, sideSum p.a)

end PairEx
open PairEx in
/-- non-vacuity: a complete clean association — request, accept, data both ways, release by the
requestor, response by the acceptor — is admissible and both sides end `released` -/
example : summary (estab ++ data ++ release) =
    (true, true, ⟨1, true, .released, false⟩, ⟨1, true, .released, false⟩) ∧
    ((Pair.run Pair.init (estab ++ data ++ release)).r.log.map (·.action)).reverse =
      [some .AE_1, some .AE_2, some .AE_3, some .DT_1, some .DT_2, some .AR_1, some .AR_3] ∧
    ((Pair.run Pair.init (estab ++ data ++ release)).a.log.map (·.action)).reverse =
      [some .AE_5, some .AE_6, some .AE_7, some .DT_2, some .DT_1, some .AR_2, some .AR_4, some .AR_5] := by
  decide +kernel

open PairEx in
/-- non-vacuity: the requestor's user aborts during data transfer; both sides end `aborted`
(AA-1 then AR-5 on one side, AA-3 on the other) -/
example : summary (estab ++ [.r (.env (.local (.abort false))), .r .a, .r .b, .deliverRA, .a .a, .a .b,
      .deliverAR, .r .a, .r .b]) =
    (true, true, ⟨1, true, .aborted, false⟩, ⟨1, true, .aborted, false⟩) := by decide +kernel

open PairEx in
/-- non-vacuity: rejection — both sides end `rejected` -/
example : summary [.r (.env (.local .assocRq)), .r .a, .r .b, .r .a, .r .b, .a .a, .a .b, .deliverRA, .a .a, .a .b,
      .a (.env (.local .reject)), .a .a, .a .b, .deliverAR, .r .a, .r .b, .a .a, .a .b] =
    (true, true, ⟨1, true, .rejected, false⟩, ⟨1, true, .rejected, false⟩) := by decide +kernel

open PairEx in
/-- **Unrestricted agreement is false (1)**: the requestor's user asks for release (Sta7) and then
aborts while the acceptor answers.  A-ABORT and A-RELEASE-RP cross on the wire: the acceptor ends
`released` (AR-4, then AA-2 on the abort it reads in Sta13), the requestor `aborted` (AA-1; the
A-RELEASE-RP it reads in Sta13 is ignored, AA-6).  Both users are synchronously admissible. -/
theorem C06_agreement_neg_abort_awaiting_release :
    summary (estab ++ [.r (.env (.local .releaseRq)), .r .a, .r .b, .deliverRA, .a .a, .a .b,
      .a (.env (.local .releaseRp)), .a .a, .a .b, .r (.env (.local (.abort false))), .r .a, .r .b,
      .deliverAR, .deliverRA, .a .a, .a .b, .r .a, .r .b, .r .a, .r .b]) =
    (true, true, ⟨1, true, .aborted, true⟩, ⟨1, true, .released, false⟩) := by decide +kernel

open PairEx in
/-- **Unrestricted agreement is false (2)**: the requestor's user aborts in Sta5 (awaiting
A-ASSOCIATE-AC/RJ) while the acceptor rejects: `aborted` against `rejected`. -/
theorem C06_agreement_neg_abort_awaiting_associate :
    summary [.r (.env (.local .assocRq)), .r .a, .r .b, .r .a, .r .b, .a .a, .a .b, .deliverRA, .a .a, .a .b,
      .a (.env (.local .reject)), .a .a, .a .b, .r (.env (.local (.abort false))), .r .a, .r .b,
      .deliverAR, .deliverRA, .a .a, .a .b, .r .a, .r .b, .r .a, .r .b] =
    (true, true, ⟨1, true, .aborted, true⟩, ⟨1, true, .rejected, false⟩) := by decide +kernel

open PairEx in
/-- **Unrestricted agreement is false (3)**: the acceptor's user asks for release and aborts in Sta7;
the requestor answers the release request before it reads the abort: `released` against `aborted`. -/
theorem C06_agreement_neg_acceptor_abort_awaiting_release :
    summary (estab ++ [.a (.env (.local .releaseRq)), .a .a, .a .b, .deliverAR,
      .a (.env (.local (.abort false))), .a .a, .a .b, .deliverAR, .r .a, .r .b,
      .r (.env (.local .releaseRp)), .r .a, .r .b, .r .a, .r .b, .deliverRA, .a .a, .a .b, .a .a, .a .b]) =
    (true, true, ⟨1, true, .released, false⟩, ⟨1, true, .aborted, true⟩) := by decide +kernel

open PairEx in
/-- **Unrestricted agreement is false (4)**: release collision; the requestor has answered (Sta11)
and aborts while the acceptor's answer is on its way: `aborted` against `released`. -/
theorem C06_agreement_neg_abort_in_collision :
    summary (estab ++ [.r (.env (.local .releaseRq)), .a (.env (.local .releaseRq)), .r .a, .r .b, .a .a, .a .b,
      .deliverRA, .deliverAR, .r .a, .r .b, .a .a, .a .b, .r (.env (.local .releaseRp)), .r .a, .r .b, .deliverRA,
      .a .a, .a .b, .a (.env (.local .releaseRp)), .a .a, .a .b, .r (.env (.local (.abort false))), .r .a, .r .b,
      .deliverRA, .deliverAR, .a .a, .a .b, .r .a, .r .b, .r .a, .r .b]) =
    (true, true, ⟨1, true, .aborted, true⟩, ⟨1, true, .released, false⟩) := by decide +kernel

open PairEx in
/-- **Why send failures are excluded**: the acceptor's connection breaks before it answers the release
request; AR-4's send fails, the acceptor still ends `released`, the requestor sees the connection
close in Sta7 (AA-4): `aborted`.  No user aborted. -/
theorem C06_agreement_neg_send_failure :
    summary (estab ++ [.r (.env (.local .releaseRq)), .r .a, .r .b, .deliverRA, .a .a, .a .b, .a (.env .breakConn),
      .a (.env (.local .releaseRp)), .a .a, .a .b, .a .a, .a .b, .deliverAR, .r .a, .r .b]) =
    (true, false, ⟨1, true, .aborted, false⟩, ⟨1, true, .released, false⟩) := by decide +kernel

end PynetVerif
