import PynetVerif.Gen.Status
import PynetVerif.Lemmas.Range
/-!
C28 — every status code has one category and all status tables agree with it.

`Gen.Status.categoryRuns` is the extension of the real `code_to_category` on
all 65536 codes (run-length encoded), `Gen.Status.tables` every `*_STATUS`
dict of `status.py` after its module-level loops ran; both are regenerated
from /repo on every run.  `Status.runs`/`Status.category` is the hand-written
model used by the other properties (C20, C22, C24) and by the driver.
-/
namespace PynetVerif
open Status

/-- The model table *is* the real function: its extension on all 65536 codes,
as regenerated from the source, equals the model's table. -/
theorem C28_model_is_code : Gen.Status.categoryRuns = Status.runs := rfl

theorem runs_contiguous : contiguous Status.runs 0 65536 = true := by decide +kernel

/-- The real function's extension is a partition of 0..65535: each 16-bit code
lies in exactly one run and that run carries one of the six categories. -/
theorem C28_exactly_one_category (c : Nat) (h : c < 65536) :
    ∃ r, r ∈ Gen.Status.categoryRuns ∧ r.1 ≤ c ∧ c ≤ r.2.1 ∧ r.2.2 ≤ 5 ∧
      categoryNat c = some r.2.2 ∧
      ∀ r' ∈ Gen.Status.categoryRuns, r'.1 ≤ c → c ≤ r'.2.1 → r' = r := by
  have hc : contiguous Gen.Status.categoryRuns 0 65536 = true := runs_contiguous
  have hk : Gen.Status.categoryRuns.all (fun r => r.2.2 ≤ 5) = true := by decide +kernel
  obtain ⟨r, hr, h1, h2⟩ := contiguous_cover _ 0 65536 hc c (Nat.zero_le _) h
  obtain ⟨hl, hu⟩ := lookup_of_mem_contiguous _ 0 65536 hc r hr c h1 h2
  refine ⟨r, hr, h1, h2, of_decide_eq_true (List.all_eq_true.mp hk r hr), ?_, hu⟩
  rw [categoryNat, ← C28_model_is_code]
  exact hl

/-- Every service-specific table assigns each of its codes (all 16-bit) the
category the general function assigns. -/
theorem C28_tables_agree (t : String × List (Nat × Nat × Nat)) (ht : t ∈ Gen.Status.tables)
    (r : Nat × Nat × Nat) (hr : r ∈ t.2) (c : Nat) (h1 : r.1 ≤ c) (h2 : c ≤ r.2.1) :
    categoryNat c = some r.2.2 ∧ c < 65536 := by
  have h : Gen.Status.tables.all
      (fun t => t.2.all (fun q => covered Status.runs q && Nat.blt q.2.1 65536)) = true := by
    decide +kernel
  have hq := List.all_eq_true.mp (List.all_eq_true.mp h t ht) r hr
  simp only [Bool.and_eq_true, Nat.blt_eq] at hq
  exact ⟨covered_spec _ 0 65536 runs_contiguous r hq.1 c h1 h2, by omega⟩

/-- SCU finality follows the category: a response is final iff it is not
Pending, except the documented Repository-Query 0xB001 warning. -/
theorem C28_scu_final_follows_category (rq : Bool) (c : Nat) :
    scuFinal rq c = true ↔ (category c ≠ .pending ∧ ¬ (rq = true ∧ c = 0xB001)) := by
  unfold scuFinal
  by_cases h : rq = true ∧ c = 0xB001
  · obtain ⟨h1, h2⟩ := h; subst h1 h2; simp
  · have : (rq && c == 0xB001) = false := by
      cases rq <;> simp_all
    simp [this, h]

-- non-vacuity: the generated tables are non-empty and include the Q/R find table
example : (Gen.Status.tables.map (·.1)).contains "QR_FIND_SERVICE_CLASS_STATUS" = true ∧
    Gen.Status.categoryRuns.length = 22 ∧ category 0xFF00 = .pending ∧ category 0xB001 = .warning := by
  decide +kernel

end PynetVerif
