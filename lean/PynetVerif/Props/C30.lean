import PynetVerif.Lemmas.Path
import PynetVerif.Driver.Path
/-!
C30 — the storage applications never write outside their storage directory.

What is proved (for ALL strings, for ANY digit class that excludes '/' and NUL
— Python's `\d` is every Unicode decimal digit): the path handed to
`save_as`/`open` is `dir` + separator + `name` where `name` is a single path
component without '/' and NUL; for storescp `name` is never "", "." or ".."
(because of the `XX.` prefix), so the path denotes a direct child of the
directory; for qrscp the same holds except for the three SOP Instance UIDs "",
"." and "..", whose paths denote the storage directory itself or its parent —
existing *directories*, on which `open(…, "wb")` fails (the correspondence run
observes exactly that on the real code: status 0xA700, nothing created).

How the model is tied to the code: `Gen.Paths` is regenerated from the source
on every run (the regex/replacement literals, the symbolic data flow from the
SOP Instance UID to every file-system sink of the two functions, the extension
of the real `re.sub` on every code point, the prefix table), and
`harness/props/c30.py` runs the real handlers against the model.

Not modelled: symbolic links below the storage directory, non-POSIX
`os.path`, NAME_MAX (an over-long name makes the write fail), what SQLite
writes next to its database file.
-/
namespace PynetVerif
open Path Driver Driver.PathD

/-- The source still contains the sanitiser the model describes, at both call
sites, and the sanitised value (nothing else derived from the data set) is
what reaches `os.path.join` and every write. -/
theorem C30_sanitiser_is_modelled :
    Gen.Paths.qrscpRegex = "[^\\d.]" ∧ Gen.Paths.qrscpRepl = "_" ∧
    Gen.Paths.storescpRegex = "[^\\d.]" ∧ Gen.Paths.storescpRepl = "_" ∧
    Gen.Paths.sameSanitiser = true ∧ Gen.Paths.othersReplaced = true ∧
    Gen.Paths.qrscpSinks = ["save_as:join(storage_dir,sub(ds.SOPInstanceUID))"] ∧
    Gen.Paths.storescpSinks =
      ["os.makedirs:args.output_directory",
       "open:phi(join(args.output_directory,cat(phi(SOP_CLASS_PREFIXES[ds.SOPClassUID][0]|'UN'),'.',sub(ds.SOPInstanceUID)))|cat(phi(SOP_CLASS_PREFIXES[ds.SOPClassUID][0]|'UN'),'.',sub(ds.SOPInstanceUID)))",
       "save_as:phi(join(args.output_directory,cat(phi(SOP_CLASS_PREFIXES[ds.SOPClassUID][0]|'UN'),'.',sub(ds.SOPInstanceUID)))|cat(phi(SOP_CLASS_PREFIXES[ds.SOPClassUID][0]|'UN'),'.',sub(ds.SOPInstanceUID)))"] := by
  exact ⟨rfl, rfl, rfl, rfl, rfl, rfl, rfl, rfl⟩

/-- The extension of the real sanitiser on all 0x110000 code points (executed
by the translator): '/' and NUL are not kept, '.' and the ASCII digits are,
and so are non-ASCII decimal digits (U+0663 ARABIC-INDIC DIGIT THREE, U+FF11
FULLWIDTH DIGIT ONE) — which is why the theorems quantify over the digit class. -/
theorem C30_real_digit_class :
    realDigit '/' = false ∧ realDigit nul = false ∧ realDigit '\\' = false ∧ realDigit '_' = false ∧
    realDigit '.' = false ∧ inRuns Gen.Paths.keepRuns ('.').toNat = true ∧
    (∀ n, 48 ≤ n → n ≤ 57 → realDigit (Char.ofNat n) = true) ∧
    realDigit (Char.ofNat 0x663) = true ∧ realDigit (Char.ofNat 0xFF11) = true := by
  refine ⟨by decide, by decide, by decide, by decide, by decide, by decide, ?_, by decide, by decide⟩
  intro n h1 h2
  have : ∀ n < 58, 48 ≤ n → realDigit (Char.ofNat n) = true := by decide
  exact this n (by omega) h1

/-- Every prefix the real table (and the `except KeyError` default) can
contribute is non-empty, has no '/' or NUL and does not start with '.'. -/
theorem C30_prefixes_ok :
    (Gen.Paths.defaultPrefix :: Gen.Paths.prefixes.map (·.2)).all okPrefix = true := by decide

/-- **storescp.**  For every SOP Instance UID, SOP Class UID and output
directory the written path is the directory, one separator (none if the
directory already ends in one), and a single component `name` that contains
neither '/' nor NUL and is not "", "." or ".."; lexically it denotes the entry
`name` directly inside the directory.  With `output_directory = None` the path
is the bare `name` (an entry of the current directory). -/
theorem C30_storescp (isDigit : Char → Bool) (hsep : isDigit '/' = false) (hnul : isDigit nul = false)
    (tbl : List (Str × Str)) (dflt : Str) (htbl : (dflt :: tbl.map (·.2)).all okPrefix = true)
    (dir : Option Str) (cls uid : Str) :
    let name := storescpName isDigit tbl dflt cls uid
    let target := storescpTarget isDigit tbl dflt dir cls uid
    '/' ∉ name ∧ nul ∉ name ∧ name ≠ [] ∧ name ≠ ['.'] ∧ name ≠ ['.', '.'] ∧
    (match dir with
     | none => target = name ∧ resolve target = [name]
     | some d =>
        target = (if d.isEmpty || d.getLast? == some '/' then d ++ name else d ++ '/' :: name) ∧
        resolve target = resolve d ++ [name]) := by
  intro name target
  obtain ⟨h1, h2, h3⟩ := storescpName_ok isDigit hsep hnul tbl dflt htbl cls uid
  refine ⟨h1, h2, h3.1, h3.2.1, h3.2.2, ?_⟩
  cases dir with
  | none =>
    have := resolve_join_proper [] name h1 h3
    rw [join_of_noSep h1] at this
    exact ⟨rfl, this⟩
  | some d => exact ⟨join_of_noSep h1, resolve_join_proper d name h1 h3⟩

/-- The same statement for the real digit class, the real prefix table and the
real default prefix: no hypothesis left. -/
theorem C30_storescp_real (dir : Option Str) (cls uid : Str) :
    let name := storescpName realDigit Gen.Paths.prefixes Gen.Paths.defaultPrefix cls uid
    let target := storescpTarget realDigit Gen.Paths.prefixes Gen.Paths.defaultPrefix dir cls uid
    '/' ∉ name ∧ nul ∉ name ∧ name ≠ [] ∧ name ≠ ['.'] ∧ name ≠ ['.', '.'] ∧
    (match dir with
     | none => target = name ∧ resolve target = [name]
     | some d =>
        target = (if d.isEmpty || d.getLast? == some '/' then d ++ name else d ++ '/' :: name) ∧
        resolve target = resolve d ++ [name]) :=
  C30_storescp realDigit C30_real_digit_class.1 C30_real_digit_class.2.1 _ _ C30_prefixes_ok dir cls uid

/-- **qrscp.**  The sanitised name has no '/' and no NUL, so `os.path.join`
never discards the storage directory and the path is the directory plus ONE
final component; unless that component is "", "." or ".." it denotes the entry
`name` directly inside the storage directory. -/
theorem C30_qrscp (isDigit : Char → Bool) (hsep : isDigit '/' = false) (hnul : isDigit nul = false)
    (dir uid : Str) :
    let name := qrscpName isDigit uid
    let target := qrscpTarget isDigit dir uid
    '/' ∉ name ∧ nul ∉ name ∧
    target = (if dir.isEmpty || dir.getLast? == some '/' then dir ++ name else dir ++ '/' :: name) ∧
    (properName name → resolve target = resolve dir ++ [name]) := by
  intro name target
  obtain ⟨h1, h2⟩ := sanitise_safe hsep hnul uid
  exact ⟨h1, h2, join_of_noSep h1, resolve_join_proper dir name h1⟩

/-- The residual names arise from exactly three SOP Instance UIDs. -/
theorem C30_qrscp_residual_iff (isDigit : Char → Bool) (uid : Str) :
    ¬ properName (qrscpName isDigit uid) ↔ (uid = [] ∨ uid = ['.'] ∨ uid = ['.', '.']) := by
  unfold properName qrscpName
  have e0 : sanitise isDigit uid = [] ↔ uid = [] := sanitise_eq_dots isDigit 0 uid
  have e1 : sanitise isDigit uid = ['.'] ↔ uid = ['.'] := sanitise_eq_dots isDigit 1 uid
  have e2 : sanitise isDigit uid = ['.', '.'] ↔ uid = ['.', '.'] := sanitise_eq_dots isDigit 2 uid
  rw [← e0, ← e1, ← e2]
  generalize sanitise isDigit uid = n
  by_cases a : n = [] <;> by_cases b : n = ['.'] <;> by_cases c : n = ['.', '.'] <;> simp [a, b, c]

/-- In the residual cases the path denotes the storage directory itself ("",
".") or the directory one step up ("..": the parent, the root for "/", or
`..` relative to the current directory) — an existing directory, never a
proper entry inside or outside the storage directory. -/
theorem C30_qrscp_residual_denotes_directory (isDigit : Char → Bool) (dir uid : Str)
    (h : uid = [] ∨ uid = ['.'] ∨ uid = ['.', '.']) :
    (uid ≠ ['.', '.'] → resolve (qrscpTarget isDigit dir uid) = resolve dir) ∧
    (uid = ['.', '.'] → resolve (qrscpTarget isDigit dir uid) =
        (normStep (isAbs dir) (resolve dir).reverse ['.', '.']).reverse) ∧
    (∀ n, properName n → resolve (qrscpTarget isDigit dir uid) ≠ resolve dir ++ [n]) := by
  have hdots : sanitise isDigit uid = uid := by
    rcases h with rfl | rfl | rfl <;> simp [sanitise, keep]
  have hsep : '/' ∉ uid := by
    rcases h with rfl | rfl | rfl <;> decide
  have e : resolve (qrscpTarget isDigit dir uid) =
      (normStep (isAbs dir) (resolve dir).reverse uid).reverse := by
    rw [qrscpTarget, qrscpName, hdots]
    exact resolve_join dir uid hsep
  rw [e]
  refine ⟨fun hne => ?_, fun hu => by rw [hu], fun n hn hh => ?_⟩
  · rcases h with rfl | rfl | rfl
    · simp [normStep]
    · simp [normStep]
    · exact absurd rfl hne
  · exact normStep_improper_ne _ _ h hn (by simpa using congrArg List.reverse hh)

/-- Why the sanitiser is needed: joining the RAW value escapes — an absolute
second component replaces the directory, and ".." components walk out.  (This
is what qrscp did before commit 172fa1a; it also shows that the model can
express an escape, i.e. the theorems above are not vacuous.) -/
theorem C30_unsanitised_join_escapes :
    join "/srv/storage".toList "/etc/passwd".toList = "/etc/passwd".toList ∧
    ¬ (resolve "/srv/storage".toList).isPrefixOf (resolve (join "/srv/storage".toList "../x".toList)) = true ∧
    ¬ (resolve "/srv/storage".toList).isPrefixOf (resolve (join "/srv/storage".toList "a/../../x".toList)) = true ∧
    resolve (join "/srv/storage".toList "../x".toList) = ["srv".toList, "x".toList] := by
  decide +kernel

example : qrscpTarget realDigit "/srv/st".toList "../a/".toList = "/srv/st/..___".toList := by decide +kernel
example : storescpTarget realDigit Gen.Paths.prefixes Gen.Paths.defaultPrefix (some "out/".toList)
    "1.2.840.10008.5.1.4.1.1.2".toList "..".toList = "out/CT...".toList := by decide +kernel
example : storescpTarget realDigit Gen.Paths.prefixes Gen.Paths.defaultPrefix none "x".toList "/a".toList = "UN.__".toList := by decide +kernel
example : resolve (qrscpTarget realDigit "/srv/st".toList "..".toList) = ["srv".toList] := by decide +kernel
example : resolve (qrscpTarget realDigit "/srv/st".toList [Char.ofNat 0x663, '/']) = ["srv".toList, "st".toList, [Char.ofNat 0x663, '_']] := by decide +kernel
example : properName "1.2.3".toList := by decide +kernel

end PynetVerif
