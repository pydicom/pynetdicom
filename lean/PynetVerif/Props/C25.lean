import PynetVerif.Model.Deliver
import PynetVerif.Lemmas.Part10
import PynetVerif.Props.C16
/-!
C25 — datasets arrive exactly as sent, for every transfer syntax and storage mode.

partial: what is proved is the BYTE transport and storage — that the bytes the sender's encoder
produced are the bytes every accessor on the receiving side is built from, for every data set,
every maximum PDU size, every grouping of fragments into PDUs, in-memory and chunked receive,
stream and chunked (file) send.  pydicom's encoder/decoder and zlib are not modelled: that a
dataset decoded from those bytes equals the original is observed by the check (generated
datasets, four transfer syntaxes), not proved.
-/
namespace PynetVerif
open Deliver

theorem rdLe32_le32 (n : Nat) (h : n < 4294967296) : rdLe32 (le32 n) = n :=
  Part10.le32_bytes n h

theorem preamble_length : preamble.length = 132 := by
  rw [preamble, List.length_append, List.length_replicate]; rfl

theorem drop_header (rest ds : Bytes) (h : rest.length < 4294967296) :
    (preamble ++ fileMeta rest ++ ds).drop (144 + rdLe32 (((preamble ++ fileMeta rest ++ ds).drop 140).take 4)) = ds := by
  -- 132 bytes of preamble and prefix, 8 of the group-length element's header, then its 4-byte value
  have e : preamble ++ fileMeta rest ++ ds =
      (preamble ++ [0x02, 0x00, 0x00, 0x00, 0x55, 0x4C, 0x04, 0x00]) ++ (le32 rest.length ++ (rest ++ ds)) := by
    simp [fileMeta]
  have h140 : ((preamble ++ fileMeta rest ++ ds).drop 140).take 4 = le32 rest.length := by
    rw [e, List.drop_left' (by simp [preamble_length])]
    exact List.take_left' rfl
  rw [h140, rdLe32_le32 _ h, e, ← List.append_assoc, ← List.append_assoc]
  exact List.drop_left' (by simp [preamble_length, le32]; omega)

/-- **Raw bytes, both storage modes**: whatever the fragmentation, `encoded_dataset(False)` is the
concatenation of the data-set fragments in arrival order -/
theorem C25_encoded_dataset (mode : Mode) (metaRest evMeta : Bytes) (frags : List Bytes)
    (h : metaRest.length < 4294967296) :
    encodedDataset (store mode metaRest frags) evMeta false = frags.flatten := by
  cases mode with
  | memory => simp [store, encodedDataset]
  | chunked =>
    simp only [store, encodedDataset, List.isEmpty_nil, ↓reduceIte, Bool.false_eq_true]
    exact drop_header metaRest frags.flatten h

/-- the decoded accessor reads the same bytes -/
theorem C25_dataset_source (mode : Mode) (metaRest : Bytes) (frags : List Bytes)
    (h : metaRest.length < 4294967296) :
    datasetSource (store mode metaRest frags) = frags.flatten := by
  cases mode with
  | memory => simp [store, datasetSource]
  | chunked => simp only [store, datasetSource]; exact drop_header metaRest frags.flatten h

/-- the chunked-receive file is preamble, "DICM", file meta, then exactly the data-set bytes; and
`encoded_dataset(True)` returns that file / the same layout built from the event's file meta -/
theorem C25_file_layout (metaRest evMeta : Bytes) (frags : List Bytes) :
    (store .chunked metaRest frags).file = some (preamble ++ fileMeta metaRest ++ frags.flatten) ∧
    encodedDataset (store .chunked metaRest frags) evMeta true = preamble ++ fileMeta metaRest ++ frags.flatten ∧
    encodedDataset (store .memory metaRest frags) evMeta true = preamble ++ evMeta ++ frags.flatten := by
  simp [store, encodedDataset]

/-- chunked SEND: the bytes put on the wire for a DICOM file are the file's bytes after the meta group -/
theorem C25_chunked_send (rest ds : Bytes) (h : rest.length < 4294967296) :
    chunkedSendBytes (preamble ++ fileMeta rest ++ ds) = ds := drop_header rest ds h

/-- **End to end (bytes)**: what the receiver reassembles from any grouping of what any sender shape
sends (`C16_receivable`) is what every accessor is built from, in both storage modes. -/
theorem C25_bytes (noDS : Bytes → Option Bool) (s : Dimse.DsShape) (ctx : Nat) (cmd : Bytes) (max : Nat)
    (hm : max = 0 ∨ 7 ≤ max) (hc : cmd ≠ []) (hs : s.ok)
    (hcodec : noDS cmd = some (!(Dimse.primToMsg s.toPrim).hasDS))
    (g : List (List Dimse.PDV)) (hg : g.flatten = (Dimse.encodeMsgFull ctx cmd (Dimse.primToMsg s.toPrim) max).1)
    (hne : ∀ x ∈ g, x ≠ []) (mode : Mode) (metaRest evMeta : Bytes) (hmr : metaRest.length < 4294967296)
    (frags : List Bytes) (hf : frags.flatten = (Dimse.decodeMsg noDS {} g).1.ds) :
    encodedDataset (store mode metaRest frags) evMeta false = s.bytes ∧
    datasetSource (store mode metaRest frags) = s.bytes := by
  have hr := C16_receivable noDS s ctx cmd max hm hc hs hcodec g hg hne
  rw [hr] at hf
  simp only at hf
  rw [C25_encoded_dataset mode metaRest evMeta frags hmr, C25_dataset_source mode metaRest frags hmr, hf]
  exact ⟨rfl, rfl⟩

example : encodedDataset (store .chunked [1, 2, 3] [[9, 8], [7]]) [] false = [9, 8, 7] ∧
    encodedDataset (store .memory [1, 2, 3] [[9, 8], [7]]) [5] true = preamble ++ [5] ++ [9, 8, 7] := by decide

end PynetVerif
