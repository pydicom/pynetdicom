import PynetVerif.Lemmas.Dul
import PynetVerif.Gen.Fsm
/-!
C05 — no schedule drives the provider into an undefined event; it returns to idle.

`Dul.run` is the reactor of dul.py at micro-step granularity (Model/Dul.lean); the check
interprets generated schedules in lockstep on the real reactor thread and on this model and compares
the state after every step.  What an action does comes from `Spec.Ps38.effects`, which C04 proves
equal to the executed code; the bookkeeping the model adds is proved equal to the executed code
here.

The full statement ("every dispatched pair is defined, for every interleaving") is FALSE of the
current code: the `_neg` theorems give concrete schedules — replayed on the real reactor by the
check — on which the thread dies.  They are races between the provider and the local association
thread (a primitive issued from a stale view of the provider's state) and the ARTIM
stop-after-expiry window; they are recorded as known findings.
-/
namespace PynetVerif
open Fsm Dul

/-- The model's queue bookkeeping is what the executed actions do (C04's exhaustive runs):
an action pops the provider queue / the received-PDU queue exactly when the model says so. -/
theorem C05_bookkeeping_is_code :
    Gen.Fsm.runs.all (fun r => match r.2 with
      | .ok effs _ =>
        (match lookup Spec.Ps38.table r.1.1 r.1.2.1 with
         | some a =>
           (effs.contains .popPrim == (popsPrim a || (a == .AA_1 && r.1.1 == 15))) &&
           (effs.contains .popPdu == popsPdu a)
         | none => false)
      | _ => true) = true := by
  -- through the grid the kernel scans the table once per cell, not once per run (Lemmas/Fsm.lean)
  simp only [← lookupG_eq]
  decide +kernel

/-- PDU / invalid-PDU events are defined in every state except Sta1 (idle) and Sta4 (awaiting the
transport connection), and connection-closed in every state except Sta1. -/
theorem C05_transport_events_defined (e st : Nat) (hs : 1 ≤ st ∧ st ≤ 13) :
    (transportPdu e = true → st ≠ 1 → st ≠ 4 → (lookup Spec.Ps38.table e st).isSome = true) ∧
    (e = 17 → st ≠ 1 → (lookup Spec.Ps38.table e st).isSome = true) :=
  ⟨fun he h1 h4 => transport_defined hs h1 (Or.inl ⟨he, h4⟩), fun he h1 => transport_defined hs h1 (Or.inr he)⟩

/-- **The only ways a dispatch kills the reactor thread**: no table entry for (event, state)
(InvalidEventError), an action whose input queue is empty, or AA-1 meeting a non-abort primitive. -/
theorem C05_death_causes (s : St) (e : Nat) (hd : s.dead = false) (h : (dispatch s e).dead = true) :
    lookup Spec.Ps38.table e s.fsm = none ∨
    ∃ a, lookup Spec.Ps38.table e s.fsm = some a ∧ fatal s a = true := by
  cases hl : lookup Spec.Ps38.table e s.fsm with
  | none => exact Or.inl rfl
  | some a =>
    refine Or.inr ⟨a, rfl, ?_⟩
    cases hf : fatal s a with
    | true => rfl
    | false =>
      -- the normal path of an action never kills the thread
      rw [dispatch_act s e a hl hf, act_eq, hd] at h
      cases h

/-- A transport-originated event (PDU, invalid PDU, connection closed) dispatched in any state
other than Sta1/Sta4 whose PDU is in the received-PDU queue never kills the thread, provided the
provider queue does not hold a stale non-abort primitive when AA-1 runs. -/
theorem C05_transport_event_safe (s : St) (e : Nat) (hd : s.dead = false)
    (hs : 1 ≤ s.fsm ∧ s.fsm ≤ 13) (h1 : s.fsm ≠ 1) (h4 : s.fsm ≠ 4)
    (he : transportPdu e = true ∨ e = 17) (hq : s.recvPdu ≠ []) (hp : s.provQ = []) :
    (dispatch s e).dead = false := by
  have hdef := transport_defined hs h1 (he.imp_left (⟨·, h4⟩))
  obtain ⟨a, hl⟩ := Option.isSome_iff_exists.mp hdef
  -- a table action reached by a transport event never pops the provider queue
  have hprim : popsPrim a = false := (rowOk hl).noPrim (Or.inl (tev_iff.mpr he))
  have hf : fatal s a = false :=
    fatal_false s a (fun h => by rw [hprim] at h; cases h) (fun _ => hq) (fun _ => Or.inl hp)
  rw [dispatch_act s e a hl hf, act_eq]
  exact hd

/-- Every action that brings the machine (back) to Sta1 sets the kill flag and counts exactly one
connection-close notification; no other action touches them. -/
theorem C05_sta1_closes (s : St) (a : Action) (e : Nat) :
    ((act s a e).fsm = 1 → (act s a e).kill = true) ∧
    (act s a e).closes = s.closes + (if (act s a e).fsm = 1 then 1 else 0) := by
  rw [act_eq]
  constructor
  · intro h; simp_all
  · simp

/-- The association sends P-DATA after the provider has already reacted to an invalid PDU (AA-8,
Sta13): Evt9 has no entry in Sta13. -/
theorem C05_neg_pdata_after_invalid_pdu :
    (run initAcceptor [.a, .b, .env (.peer (.pdu 6 false)), .a, .b, .env (.local .accept), .a, .b,
      .env (.peer .invalid), .a, .b, .env (.local .pdata), .a, .b]).dead = true := by decide +kernel

/-- The local user requests release while the peer's release request has been processed by the
provider (Sta8) but not yet seen by the association: Evt11 has no entry in Sta8. -/
theorem C05_neg_release_collision_stale :
    (run initRequestor [.env (.local .assocRq), .a, .b, .a, .b, .env (.peer (.pdu 3 false)), .a, .b,
      .env (.peer (.pdu 12 false)), .a, .b, .env (.local .releaseRq), .a, .b]).dead = true := by decide +kernel

/-- ARTIM expires between the check at the top of the iteration and AE-6's `stop()`: the timer
stays "expired" after being stopped and Evt18 is then dispatched in Sta3. -/
theorem C05_neg_artim_expiry_after_stop :
    (run initAcceptor [.a, .b, .env (.peer (.pdu 6 false)), .a, .env .artimFire, .b, .a, .b]).dead = true := by
  decide +kernel

-- non-vacuity: a complete, clean association (accept, data, release) ends idle with kill set, alive
example : let s := run initAcceptor [.a, .b, .env (.peer (.pdu 6 false)), .a, .b, .env (.local .accept), .a, .b,
      .env (.peer (.pdu 10 false)), .a, .b, .env (.peer (.pdu 12 false)), .a, .b, .env (.local .releaseRp), .a, .b,
      .env (.peer .eof), .a, .b]
    s.fsm = 1 ∧ s.kill = true ∧ s.dead = false ∧ s.closes = 1 := by decide +kernel

end PynetVerif
