import PynetVerif.Lemmas.DulStream
/-!
C05 (invariant part) — under admissible local behaviour (`Dul.runOk`, Model/DulAdmissible.lean) the
reactor thread never dies: `C05_defined_partial`, whose docstring spells the hypothesis out.  `C05.lean`
shows that without a hypothesis the statement is false.

Two layers.  `Inv` (shapes `loc`/`tr`/`acc`/`req`/`exp`) is the invariant of *synchronous* admissibility
(`runOkSync`: the quiescent clause only); it is also what the two-sided C06 proofs build on.  `InvS`
adds the streaming shape `Strm` and is the invariant of the full `runOk`.  `Strm` rests on the reactor
serving ONE event source per iteration with local primitives first: while a request is pending phase A
queues exactly one Evt9 and does not read the transport, phase B dispatches exactly one event, so there is
never more than one undispatched Evt9 in front of a terminating event and never a PDU event between a
pending request and its Evt9.  `Props/C05Stream.lean` shows that a reactor serving both sources per
iteration breaks this (`C05_neg_stream_both_sources`) and that `streamQ` cannot be dropped
(`C05_neg_stream_*`).

The proofs.  `Base` is `Live` without `shape`; every environment step and phase A keep it whatever the
queues hold, so the step lemmas only produce the new shape.  Phase B goes through one lemma,
`dispatch_base`: from `Ready` (table entry, inputs present, ARTIM not expired) the action runs, the thread
survives, and either the machine is back in Sta1 — the reactor stops, and the invariant asks nothing more —
or `Base` holds again.  What each shape has to supply is `Ready`; what it gets back is its own successor.
-/
namespace PynetVerif
open Fsm Dul

namespace C05Inv

/-- the shapes the queues can have while the reactor is live -/
inductive Shape (fsm : Nat) (eventQ : List Nat) (provQ : List Prim) (artim : Artim) (phaseB connected : Bool) : Prop
  /-- exactly one local primitive is pending; its event is defined for the current state and is
  either not yet queued or the only queued event -/
  | loc (p : Prim) (hp : provQ = [p]) (hdef : (lookup Spec.Ps38.table p.event fsm).isSome = true)
      (hne : artim.expired = false)
      (hq : (phaseB = false ∧ eventQ = []) ∨ (phaseB = true ∧ eventQ = [p.event]))
  /-- only transport events are queued, and the state is neither Sta1 nor Sta4 -/
  | tr (hp : provQ = []) (hne : artim.expired = false) (h1 : fsm ≠ 1) (h4 : fsm ≠ 4)
      (hq : ∀ x ∈ eventQ, tev x = true)
  /-- acceptor start: Sta1 with Evt5 at the head of the queue -/
  | acc (hp : provQ = []) (hne : artim.expired = false) (h1 : fsm = 1) (r : List Nat)
      (hq : eventQ = 5 :: r) (hr : ∀ x ∈ r, tev x = true)
  /-- requestor start: Sta1, not connected, nothing queued -/
  | req (hp : provQ = []) (hne : artim.expired = false) (h1 : fsm = 1) (hq : eventQ = [])
      (hc : connected = false) (hb : phaseB = false)
  /-- ARTIM has expired (at a quiescent point): Evt18 is, or will be, the next event dispatched -/
  | exp (hp : provQ = []) (he : artim.expired = true)
      (hq : (phaseB = false ∧ eventQ = []) ∨ (phaseB = true ∧ ∃ r, eventQ = 18 :: r ∧ ∀ x ∈ r, tev x = true))

structure LiveF (fsm : Nat) (eventQ : List Nat) (provQ : List Prim) (recvPdu : List (Nat × Bool))
    (artim : Artim) (phaseB connected : Bool) (inbox : List Wire) : Prop where
  rng : 1 ≤ fsm ∧ fsm ≤ 13
  /-- every queued PDU event has its PDU in `_recv_pdu` -/
  cnt : pduCount eventQ ≤ recvPdu.length
  art : artimOk fsm artim = true
  box : ∀ w ∈ inbox, wireOk w = true
  shape : Shape fsm eventQ provQ artim phaseB connected

abbrev Live (s : St) : Prop :=
  LiveF s.fsm s.eventQ s.provQ s.recvPdu s.artim s.phaseB s.connected s.inbox

/-- the thread is alive, and either the reactor has been told to stop or the queues are in shape -/
abbrev Inv (s : St) : Prop := s.dead = false ∧ (s.kill = true ∨ Live s)

theorem pduEv_prim (p : Prim) : pduEv p.event = false := by cases p <;> rfl

theorem inv_init (requestor : Bool) : Inv (if requestor then initRequestor else initAcceptor) := by
  cases requestor
  · refine ⟨rfl, Or.inr ⟨by decide, by decide, rfl, (fun _ h => nomatch h), ?_⟩⟩
    exact Shape.acc rfl rfl rfl [] rfl (fun _ h => nomatch h)
  · refine ⟨rfl, Or.inr ⟨by decide, by decide, rfl, (fun _ h => nomatch h), ?_⟩⟩
    exact Shape.req rfl rfl rfl rfl rfl rfl

/-- `LiveF` without `shape`, over the five fields it reads: so `Base s` is `Base t` for every `t` that
agrees with `s` on them -/
structure BaseF (fsm : Nat) (eventQ : List Nat) (recvPdu : List (Nat × Bool)) (artim : Artim)
    (inbox : List Wire) : Prop where
  rng : 1 ≤ fsm ∧ fsm ≤ 13
  cnt : pduCount eventQ ≤ recvPdu.length
  art : artimOk fsm artim = true
  box : ∀ w ∈ inbox, wireOk w = true

abbrev Base (s : St) : Prop := BaseF s.fsm s.eventQ s.recvPdu s.artim s.inbox

theorem LiveF.base {s : St} (h : Live s) : Base s := ⟨h.rng, h.cnt, h.art, h.box⟩

theorem BaseF.live {s : St} (h : Base s) (sh : Shape s.fsm s.eventQ s.provQ s.artim s.phaseB s.connected) :
    Live s := ⟨h.rng, h.cnt, h.art, h.box, sh⟩

theorem BaseF.env {s : St} (h : Base s) (e : Env) (hw : ∀ w, e = .peer w → wireOk w = true) :
    Base (env e s) := by
  cases e with
  | peer w =>
    exact ⟨h.rng, h.cnt, h.art, List.forall_mem_append.mpr ⟨h.box, by simpa using hw w rfl⟩⟩
  | artimFire => exact ⟨h.rng, h.cnt, (artimOk_fire ..).trans h.art, h.box⟩
  | _ => exact h

theorem BaseF.push {s : St} (h : Base s) {l : List Nat} (hl : ∀ x ∈ l, pduEv x = false) :
    Base { s with eventQ := s.eventQ ++ l } :=
  ⟨h.rng, by
    show pduCount (s.eventQ ++ l) ≤ s.recvPdu.length
    rw [pduCount_append, pduCount_eq_zero hl]; exact h.cnt, h.art, h.box⟩

theorem BaseF.iterA {s : St} (h : Base s) : Base (iterA s) := by
  rcases iterA_cases s with heq | ⟨pre, ex, i, r, c, hpre, hs, _, heq⟩ <;> rw [heq]
  · exact h
  have h1 : Base { s with eventQ := s.eventQ ++ pre } :=
    h.push (by rcases hpre with rfl | rfl <;> simp [pduEv])
  have h17 := h1.push (l := [17]) (by simp [pduEv])
  cases hs with
  | none => exact h1.push (l := []) nofun
  | prim p ps hp => exact h1.push (l := [p.event]) (by simpa using pduEv_prim p)
  | pdu e alt rest hi hc =>
    -- the PDU is put into the received-PDU queue as its event is queued
    refine ⟨h.rng, ?_, h.art, fun w hw => h.box w (hi ▸ List.mem_cons_of_mem _ hw)⟩
    rw [pduCount_append, List.length_append]
    exact Nat.add_le_add h1.cnt (List.countP_le_length (l := [e]))
  | invalid rest hi hc =>
    exact ⟨h.rng, (h1.push (l := [19]) (by simp [pduEv])).cnt, h.art,
      fun w hw => h.box w (hi ▸ List.mem_cons_of_mem _ hw)⟩
  | eof rest hi hc => exact h17
  | close h13 hc => exact h17

theorem artimOk_expired {fsm : Nat} {ar : Artim} (h : artimOk fsm ar = true) (he : ar.expired = true) :
    ar = .runningExpired ∧ (fsm = 2 ∨ fsm = 13) := by
  cases ar <;> simp [Artim.expired, artimOk] at he h ⊢
  exact h

theorem env_inv (s : St) (e : Env) (hok : stepOkSync s (.env e) = true) (h : Inv s) : Inv (env e s) := by
  obtain ⟨hd, hk | hL⟩ := h
  · cases e <;> exact ⟨hd, Or.inl hk⟩
  have hB : Base (env e s) := hL.base.env e (by rintro w rfl; exact hok)
  refine ⟨by cases e <;> exact hd, Or.inr (hB.live ?_)⟩
  cases e with
  | peer w => exact hL.shape
  | breakConn => exact hL.shape
  | connectWillFail => exact hL.shape
  | artimFire =>
    simp only [stepOkSync, quiescent, Bool.and_eq_true, Bool.not_eq_true', List.isEmpty_iff] at hok
    obtain ⟨⟨hb, hq⟩, hp⟩ := hok
    have shape := hL.shape
    show Shape s.fsm s.eventQ s.provQ s.artim.fire s.phaseB s.connected
    cases har : s.artim with
    | running => exact Shape.exp hp rfl (Or.inl ⟨hb, hq⟩)
    | off | runningExpired | stoppedOk | stoppedExpired => rw [har] at shape; exact shape
  | «local» p =>
    simp only [stepOkSync, quiescent, Bool.and_eq_true, Bool.not_eq_true', List.isEmpty_iff] at hok
    obtain ⟨⟨⟨⟨hb, hq⟩, hp⟩, hu⟩, hdef⟩ := hok
    show Shape s.fsm s.eventQ (s.provQ ++ [p]) s.artim s.phaseB s.connected
    have hne : s.artim.expired = false := by
      cases hexp : s.artim.expired with
      | false => rfl
      | true =>
        -- ARTIM only expires in Sta2/Sta13, where no primitive of the association code is defined
        exfalso
        obtain ⟨_, h213⟩ := artimOk_expired hL.art hexp
        obtain ⟨u2, u13⟩ := userPrim_undefined_2_13 p (mem_allPrims p) hu
        rcases h213 with h | h <;> rw [h] at hdef
        · rw [u2] at hdef; cases hdef
        · rw [u13] at hdef; cases hdef
    rw [hp]
    exact Shape.loc p rfl hdef hne (Or.inl ⟨hb, hq⟩)

theorem iterA_inv (s : St) (h : Inv s) : Inv (iterA s) := by
  by_cases hrun : (!s.live || s.phaseB) = true
  · rw [iterA_idle hrun]; exact h
  obtain ⟨hk, hb⟩ := running_A hrun
  obtain ⟨hd, hk' | hL⟩ := h
  · rw [hk] at hk'; cases hk'
  refine ⟨by rw [iterA_eq]; exact hd, Or.inr (hL.base.iterA.live ?_)⟩
  cases hL.shape with
  | loc p hp hdef hne hq =>
    rw [iterA_peek hrun hp, iterA1_of_not_expired hne]
    exact Shape.loc p hp hdef hne (Or.inr ⟨rfl, by rw [(hq.resolve_right (by simp [hb])).2]; rfl⟩)
  | tr hp hne h1 h4 hq =>
    obtain ⟨ex, hext, _, heq⟩ := iterA_src hrun hp hL.box
    rw [heq, iterA1_of_not_expired hne]
    exact Shape.tr hp hne h1 h4 (List.forall_mem_append.mpr ⟨hq, hext⟩)
  | acc hp hne h1 r hq hr =>
    obtain ⟨ex, hext, _, heq⟩ := iterA_src hrun hp hL.box
    rw [heq, iterA1_of_not_expired hne]
    exact Shape.acc hp hne h1 (r ++ ex) (by rw [hq]; rfl) (List.forall_mem_append.mpr ⟨hr, hext⟩)
  | req hp hne h1 hq hc _ =>
    obtain ⟨ex, _, hconn, heq⟩ := iterA_src hrun hp hL.box
    obtain ⟨hex, hc'⟩ := hconn hc
    rw [heq, iterA1_of_not_expired hne] at hc' ⊢
    exact Shape.req hp hne h1 (by rw [hq, hex]; rfl) hc' (by rw [hq, hex]; rfl)
  | exp hp he hq =>
    obtain ⟨ex, hext, _, heq⟩ := iterA_src hrun hp hL.box
    rw [heq, iterA1_eq]
    exact Shape.exp hp he (Or.inr ⟨by simp [he], ex, by simp [he, (hq.resolve_right (by simp [hb])).2], hext⟩)

/-- `s` is the state after `e` has been popped in phase B.  `h1`, `h3`: the action finds its inputs in the
provider queue; in the received-PDU queue it does by `cnt`, since only PDU events have actions that pop it.
`hne`: Evt18 always leads to Sta1, which is why ARTIM may be expired for it -/
structure Ready (s : St) (e : Nat) (a : Action) : Prop where
  hl : lookup Spec.Ps38.table e s.fsm = some a
  base : Base s
  cnt : pduCount (e :: s.eventQ) ≤ s.recvPdu.length
  hne : s.artim.expired = false ∨ e = 18
  hd : s.dead = false
  h1 : popsPrim a = true → s.provQ ≠ []
  h3 : a = .AA_1 → s.provQ = [] ∨ ∃ alt r, s.provQ = .abort alt :: r

theorem BaseF.pop {s : St} (h : Base s) {e : Nat} {rest : List Nat} (hq : s.eventQ = e :: rest) :
    Base { s with eventQ := rest, phaseB := false } ∧ pduCount (e :: rest) ≤ s.recvPdu.length := by
  have := h.cnt
  rw [hq] at this
  exact ⟨⟨h.rng, Nat.le_of_add_right_le (pduCount_cons e rest ▸ this), h.art, h.box⟩, this⟩

theorem dispatch_base {s : St} {e : Nat} {a : Action} (h : Ready s e a) :
    Inv (dispatch s e) ∨
    (dispatch s e = act s a e ∧ (act s a e).dead = false ∧ (act s a e).phaseB = s.phaseB ∧
      Base (act s a e) ∧ (act s a e).artim.expired = false ∧ (act s a e).fsm ≠ 1) := by
  obtain ⟨hl, hB, cnt, hne, hd, h1, h3⟩ := h
  have hpdu := (rowOk hl).pdu
  rw [pduCount_cons] at cnt
  have hf : fatal s a = false :=
    fatal_false s a h1 (fun h hnil => by rw [hpdu h, hnil] at cnt; simp at cnt) h3
  have hdis := dispatch_act s e a hl hf
  have hdead : (act s a e).dead = false := by rw [act_eq]; exact hd
  obtain ⟨hnext, -, h18, hart⟩ : EffOk e s.fsm a (effectsOf s a e) := effectsOf_of_effB (rowOk hl).eff s e
  by_cases hn : (effectsOf s a e).2 = 1
  · -- back in Sta1: the kill flag is set, and the invariant asks nothing more
    refine Or.inl (hdis ▸ ⟨hdead, Or.inl ?_⟩)
    rw [act_eq]; simp [hn]
  have hne' : s.artim.expired = false := hne.resolve_right (fun h => hn (h18 h))
  obtain ⟨ex, hex, hex'⟩ := act_eventQ s a e
  have hex0 : pduCount ex = 0 :=
    pduCount_eq_zero fun x hx => by rcases hex' x hx with rfl | ⟨rfl, _⟩ <;> rfl
  refine Or.inr ⟨hdis, hdead, by rw [act_eq], ⟨by rw [act_eq]; exact hnext, ?_, ?_, by rw [act_eq]; exact hB.box⟩,
    by rw [act_artim]; exact artimAfter_expired _ _ hne', by rw [act_eq]; exact hn⟩
  · rw [hex, pduCount_append, hex0, act_eq]
    show pduCount s.eventQ + 0 ≤ (if popsPdu a = true then s.recvPdu.tail else s.recvPdu).length
    split
    · rename_i hp; rw [hpdu hp] at cnt; rw [List.length_tail]; simp at cnt; omega
    · omega
  · rw [act_artim]
    have := (hart _ (mem_allArtim _) hB.art hne').resolve_left hn
    rw [act_eq]; exact this

theorem dispatch_to_idle {s : St} {e : Nat} {a : Action} (h : Ready s e a)
    (hidle : ∀ req alt b, (effB a req alt b).2 = 1) : Inv (dispatch s e) := by
  obtain hI | ⟨_, _, _, _, _, hn⟩ := dispatch_base h
  · exact hI
  · exact absurd (by rw [act_eq]; exact effectsOf_of_effB (P := (·.2 = 1)) hidle s e) hn

/-- the shape afterwards is `tr`, or `loc` with the connect result AE-1 has queued -/
theorem dispatch_inv {s : St} {e : Nat} {a : Action} (h : Ready s e a)
    (hb : s.phaseB = false) (hq : ∀ x ∈ s.eventQ, tev x = true)
    (hprov : (popInputs s a).provQ = [] ∨ ∀ req alt b, (effB a req alt b).2 = 1)
    (hae1 : a = .AE_1 → s.eventQ = []) : Inv (dispatch s e) := by
  rcases hprov with hpq | hidle
  case inr => exact dispatch_to_idle h hidle
  obtain hI | ⟨hdis, hdead, hph, hB', hne', hn1⟩ := dispatch_base h
  · exact hI
  rw [hdis]
  refine ⟨hdead, Or.inr (hB'.live ?_)⟩
  obtain ⟨ex, hex, hex'⟩ := act_eventQ s a e
  have hext : ∀ x ∈ ex, tev x = true := fun x hx => by rcases hex' x hx with rfl | ⟨rfl, _⟩ <;> rfl
  rw [hph, hb]
  by_cases ha : a = .AE_1
  · subst ha
    obtain ⟨hq1, hp1⟩ := act_AE_1 s e
    have h4 : (act s .AE_1 e).fsm = 4 := by rw [act_eq]; rfl
    rw [hq1, hae1 rfl, h4]
    rcases hp1 with h | h <;> rw [h, hpq]
    · exact Shape.loc .connectOk rfl (by decide +kernel) hne' (Or.inl ⟨rfl, rfl⟩)
    · exact Shape.loc .connectFail rfl (by decide +kernel) hne' (Or.inl ⟨rfl, rfl⟩)
  · obtain ⟨hc, hn4⟩ := (effectsOf_of_effB (rowOk h.hl).eff s e).connect ha
    rw [act_provQ s a e hc, hpq, hex]
    exact Shape.tr rfl hne' hn1 (by rw [act_eq]; exact hn4) (List.forall_mem_append.mpr ⟨hq, hext⟩)

/-- dispatch of a transport event, of the acceptor's Evt5 or of Evt18, with an empty provider queue -/
theorem dispatch_nil {s : St} {e : Nat} (hev : tev e = true ∨ e = 5 ∨ e = 18)
    (hB : Base s) (cnt : pduCount (e :: s.eventQ) ≤ s.recvPdu.length)
    (hne : s.artim.expired = false ∨ e = 18) (hd : s.dead = false) (hb : s.phaseB = false)
    (hp : s.provQ = []) (hdef : (lookup Spec.Ps38.table e s.fsm).isSome = true)
    (hq : ∀ x ∈ s.eventQ, tev x = true) : Inv (dispatch s e) := by
  obtain ⟨a, hl⟩ := Option.isSome_iff_exists.mp hdef
  have hnprim : popsPrim a = false := (rowOk hl).noPrim hev
  exact dispatch_inv ⟨hl, hB, cnt, hne, hd, (fun h => by rw [hnprim] at h; cases h), fun _ => Or.inl hp⟩ hb hq
    (Or.inl (popInputs_provQ_nil s a hp)) (by rintro rfl; cases hnprim)

/-- dispatch of the event of the single pending local primitive -/
theorem dispatch_loc {s : St} (p : Prim) (hB : Base s) (hne : s.artim.expired = false)
    (hd : s.dead = false) (hb : s.phaseB = false) (hp : s.provQ = [p])
    (hdef : (lookup Spec.Ps38.table p.event s.fsm).isSome = true) (hq : s.eventQ = []) :
    Inv (dispatch s p.event) := by
  obtain ⟨a, hl⟩ := Option.isSome_iff_exists.mp hdef
  obtain ⟨habort, hpop⟩ := (rowOk hl).prim p (mem_allPrims p) rfl
  have hab : a = .AA_1 → ∃ alt, p = .abort alt := fun ha => by
    have := habort ha
    cases p <;> first | exact ⟨_, rfl⟩ | cases this
  refine dispatch_inv ⟨hl, hB, ?_, Or.inl hne, hd, (fun _ => by rw [hp]; simp),
    fun ha => (hab ha).elim fun alt h => Or.inr ⟨alt, [], h ▸ hp⟩⟩ hb
    (fun x hx => by rw [hq] at hx; cases hx) ?_ (fun _ => hq)
  · rw [hq, pduCount_cons, pduEv_prim]; exact Nat.zero_le _
  · rcases hpop with hpp | ha | h1
    · exact Or.inl (popInputs_provQ_single s a p hp (Or.inl hpp))
    · exact Or.inl (popInputs_provQ_single s a p hp (Or.inr ⟨ha, habort ha⟩))
    · exact Or.inr h1

theorem iterB_inv (s : St) (h : Inv s) : Inv (iterB s) := by
  by_cases hrun : (!s.live || !s.phaseB) = true
  · rw [iterB_idle hrun]; exact h
  obtain ⟨hk, hb⟩ := running_B hrun
  obtain ⟨hd, hk' | hL⟩ := h
  · rw [hk] at hk'; cases hk'
  have hB := hL.base
  -- between phase A and phase B every shape but `tr` says what the head of the event queue is
  cases hL.shape with
  | req hp hne h1 hq hc hb' => rw [hb] at hb'; cases hb'
  | loc p hp hdef hne hq =>
    have hq := (hq.resolve_left (by simp [hb])).2
    rw [iterB_cons hrun hq]
    exact dispatch_loc p (hB.pop hq).1 hne hd rfl hp hdef rfl
  | acc hp hne h1 r hq hr =>
    rw [iterB_cons hrun hq]
    exact dispatch_nil (Or.inr (Or.inl rfl)) (hB.pop hq).1 (hB.pop hq).2 (Or.inl hne) hd rfl hp
      (by rw [h1]; decide +kernel) hr
  | exp hp he hq =>
    obtain ⟨r, hq, hr⟩ := (hq.resolve_left (by simp [hb])).2
    have hdef : (lookup Spec.Ps38.table 18 s.fsm).isSome = true := by
      rcases (artimOk_expired hB.art he).2 with h | h <;> rw [h] <;> decide +kernel
    rw [iterB_cons hrun hq]
    exact dispatch_nil (Or.inr (Or.inr rfl)) (hB.pop hq).1 (hB.pop hq).2 (Or.inr rfl) hd rfl hp hdef hr
  | tr hp hne h1 h4 hq' =>
    cases hq : s.eventQ with
    | nil =>
      rw [iterB_nil hrun hq]
      exact ⟨hd, Or.inr (hB.live (s := { s with phaseB := false }) (Shape.tr hp hne h1 h4 hq'))⟩
    | cons e rest =>
      rw [hq] at hq'
      have hte : tev e = true := hq' e (List.mem_cons_self ..)
      rw [iterB_cons hrun hq]
      exact dispatch_nil (Or.inl hte) (hB.pop hq).1 (hB.pop hq).2 (Or.inl hne) hd rfl hp
        (transport_defined hB.rng h1 ((tev_iff.mp hte).imp_left (⟨·, h4⟩)))
        (fun x hx => hq' x (List.mem_cons_of_mem _ hx))

theorem step_inv (s : St) (st : Step) (hok : stepOkSync s st = true) (h : Inv s) : Inv (step s st) := by
  cases st with
  | env e => exact env_inv s e hok h
  | a => exact iterA_inv s h
  | b => exact iterB_inv s h

theorem run_inv : ∀ (sched : List Step) (s : St), runOkSync s sched = true → Inv s → Inv (run s sched) := by
  intro sched
  induction sched with
  | nil => intro s _ h; exact h
  | cons st rest ih =>
    intro s hok h
    simp only [runOkSync, Bool.and_eq_true] at hok
    exact ih (step s st) hok.2 (step_inv s st hok.1 h)

/-- streamed P-DATA requests in Sta6 (or Sta8, once the peer's A-RELEASE-RQ has been dispatched): only
P-DATA requests are pending (possibly none any more); the event queue is empty or led by a terminating
event (Evt16/Evt17: whatever follows is never dispatched) — except, between phase A and phase B, for the
event of the iteration in progress, which is the Evt9 of a pending request, the peer's A-RELEASE-RQ, or a
P-DATA-TF PDU with a decodable payload: none of them leads to Sta13, and every one leaves the queue
empty-or-terminator-led again -/
structure Strm (s : St) : Prop where
  base : Base s
  h68 : s.fsm = 6 ∨ s.fsm = 8
  hp : ∀ p ∈ s.provQ, p = .pdata
  hq : termLed s.eventQ = true ∨
    (s.phaseB = true ∧ ∃ e r, s.eventQ = e :: r ∧ termLed r = true ∧
      ((e = 9 ∧ s.provQ ≠ []) ∨ (s.fsm = 6 ∧ e = 12) ∨ (s.fsm = 6 ∧ e = 10 ∧ headDecodable s.recvPdu = true)))

/-- the invariant of the full `runOk` -/
abbrev InvS (s : St) : Prop := Inv s ∨ (s.dead = false ∧ Strm s)

/-- a streamed request puts the queues into the streaming shape, whatever shape they had -/
theorem strm_of_streamOk (s : St) (p : Prim) (hok : streamOk s p = true) (hB : Base s) :
    Strm (env (.local p) s) := by
  simp only [streamOk, Bool.and_eq_true, beq_iff_eq] at hok
  obtain ⟨⟨⟨rfl, h6⟩, hall⟩, hsq⟩ := hok
  refine ⟨hB.env _ nofun, Or.inl h6, List.forall_mem_append.mpr ⟨allPdata_iff.mp hall, by simp⟩, ?_⟩
  rcases streamQ_spec hsq with h | ⟨hb, e, r, heq, htl, hcase⟩
  · exact Or.inl h
  · refine Or.inr ⟨hb, e, r, heq, htl, ?_⟩
    rcases hcase with h9 | h12 | ⟨h10, hdec⟩
    · exact Or.inl ⟨h9, by simp [env]⟩
    · exact Or.inr (Or.inl ⟨h6, h12⟩)
    · exact Or.inr (Or.inr ⟨h6, h10, hdec⟩)

theorem env_invS (s : St) (e : Env) (hok : stepOk s (.env e) = true) (h : InvS s) : InvS (env e s) := by
  rcases h with h | ⟨hd, hS⟩
  · cases e with
    | «local» p =>
      rcases Bool.or_eq_true_iff.mp hok with hok | hok
      · exact Or.inl (env_inv s (.local p) hok h)
      · obtain ⟨hd, hk | hL⟩ := h
        · exact Or.inl ⟨hd, Or.inl hk⟩
        · exact Or.inr ⟨hd, strm_of_streamOk s p hok hL.base⟩
    | peer _ | breakConn | artimFire | connectWillFail => exact Or.inl (env_inv s _ hok h)
  · have hB := hS.base.env e (by rintro w rfl; exact hok)
    cases e with
    | «local» p =>
      rcases Bool.or_eq_true_iff.mp hok with hok | hok
      · -- the stream has drained and the reactor is quiescent again: back to the `loc` shape
        simp only [quiescentOk, quiescent, Bool.and_eq_true, Bool.not_eq_true', List.isEmpty_iff] at hok
        obtain ⟨⟨⟨⟨hb, hq0⟩, hp0⟩, _⟩, hdef⟩ := hok
        refine Or.inl ⟨hd, Or.inr (hB.live ?_)⟩
        show Shape s.fsm s.eventQ (s.provQ ++ [p]) s.artim s.phaseB s.connected
        rw [hp0]
        exact Shape.loc p rfl hdef (not_expired_68 hS.h68 hS.base.art) (Or.inl ⟨hb, hq0⟩)
      · exact Or.inr ⟨hd, strm_of_streamOk s p hok hS.base⟩
    -- ARTIM does not run in Sta6/Sta8, and the shape does not mention it
    | peer _ | breakConn | artimFire | connectWillFail => exact Or.inr ⟨hd, hB, hS.h68, hS.hp, hS.hq⟩

theorem iterA_invS (s : St) (h : InvS s) : InvS (iterA s) := by
  rcases h with h | ⟨hd, hS⟩
  · exact Or.inl (iterA_inv s h)
  by_cases hrun : (!s.live || s.phaseB) = true
  · rw [iterA_idle hrun]; exact Or.inr ⟨hd, hS⟩
  obtain ⟨_, hb⟩ := running_A hrun
  have hne : s.artim.expired = false := (not_expired_68 hS.h68 hS.base.art)
  have htl : termLed s.eventQ = true := hS.hq.resolve_right fun h => by rw [hb] at h; cases h.1
  have hB := hS.base.iterA
  have hd' : (iterA s).dead = false := by rw [iterA_eq]; exact hd
  by_cases hpq : s.provQ = []
  · obtain ⟨ex, hext, _, heq⟩ := iterA_src hrun hpq hS.base.box
    rw [iterA1_of_not_expired hne] at heq
    by_cases h0 : s.eventQ = []
    · -- nothing pending, nothing queued: the stream is over, this is the `tr` shape
      have h14 : s.fsm ≠ 1 ∧ s.fsm ≠ 4 := by rcases hS.h68 with h | h <;> omega
      refine Or.inl ⟨hd', Or.inr (hB.live ?_)⟩
      rw [heq]
      exact Shape.tr hpq hne h14.1 h14.2 (List.forall_mem_append.mpr ⟨by rw [h0]; nofun, hext⟩)
    · -- a terminating event leads the queue: whatever is read is queued behind it
      refine Or.inr ⟨hd', hB, ?_, ?_, ?_⟩ <;> rw [heq]
      · exact hS.h68
      · exact hS.hp
      · exact Or.inl (termLed_append ex htl h0)
  · -- a pending P-DATA request is peeked: Evt9 is queued, the transport is NOT read
    obtain ⟨p, r, hpq⟩ := List.exists_cons_of_ne_nil hpq
    have h9 : p.event = 9 := by rw [hS.hp p (hpq ▸ List.mem_cons_self ..)]; rfl
    refine Or.inr ⟨hd', hB, ?_, ?_, ?_⟩ <;> rw [iterA_peek hrun hpq, iterA1_of_not_expired hne, h9]
    · exact hS.h68
    · exact hS.hp
    · by_cases h0 : s.eventQ = []
      · exact Or.inr ⟨rfl, 9, [], by rw [h0]; rfl, rfl, Or.inl ⟨rfl, by rw [hpq]; simp⟩⟩
      · exact Or.inl (termLed_append _ htl h0)

/-- in the streaming shape: an action that keeps the provider in Sta6/Sta8 and queues no Evt19 -/
theorem dispatch_strm_row {s : St} {e : Nat} {a : Action} (h : Ready s e a)
    (hp : ∀ p ∈ s.provQ, p = .pdata) (htl : termLed s.eventQ = true)
    (heff : ∀ req alt b, ((effB a req alt b).2 = 6 ∨ (effB a req alt b).2 = 8) ∧
      (usedEffs a (effB a req alt b).1).contains .connect = false)
    (hno19 : ((a = .DT_2 || a = .AR_6) && altOf s a e) = false) : InvS (dispatch s e) := by
  obtain hI | ⟨hdis, hdead, _, hB', _, _⟩ := dispatch_base h
  · exact Or.inl hI
  rw [hdis]
  obtain ⟨hn, hc⟩ := effectsOf_of_effB
    (P := fun r => (r.2 = 6 ∨ r.2 = 8) ∧ (usedEffs a r.1).contains .connect = false) heff s e
  obtain ⟨ex, hex, hex'⟩ := act_eventQ s a e
  refine Or.inr ⟨hdead, hB', by rw [act_eq]; exact hn, ?_, ?_⟩
  · rw [act_provQ s a e hc]
    exact fun p h => hp p (popInputs_provQ_subset s a p h)
  · rw [hex]
    exact Or.inl (termLed_append17 htl fun x hx => (hex' x hx).resolve_right fun h => by
      rw [hno19] at h; cases h.2)

theorem dispatch_strm {s : St} {e : Nat} (hd : s.dead = false) (hB : Base s)
    (cnt : pduCount (e :: s.eventQ) ≤ s.recvPdu.length)
    (h68 : s.fsm = 6 ∨ s.fsm = 8) (hp : ∀ p ∈ s.provQ, p = .pdata)
    (hq : termLed (e :: s.eventQ) = true ∨ (termLed s.eventQ = true ∧
      ((e = 9 ∧ s.provQ ≠ []) ∨ (s.fsm = 6 ∧ e = 12) ∨
       (s.fsm = 6 ∧ e = 10 ∧ headDecodable s.recvPdu = true)))) : InvS (dispatch s e) := by
  have hne : s.artim.expired = false := not_expired_68 h68 hB.art
  -- every action below but DT-1/AR-7 pops no primitive; none is AA-1
  have ready {a : Action} (hl : lookup Spec.Ps38.table e s.fsm = some a)
      (h1 : popsPrim a = true → s.provQ ≠ []) (ha : a ≠ .AA_1) : Ready s e a :=
    ⟨hl, hB, cnt, Or.inl hne, hd, h1, fun h => absurd h ha⟩
  rcases hq with hterm | ⟨htl, hcase⟩
  · left
    rcases termLed_cons hterm with rfl | rfl
    · exact dispatch_to_idle (a := .AA_3) (ready (by rcases h68 with h | h <;> rw [h] <;> decide +kernel) nofun nofun)
        (fun _ _ _ => rfl)
    · exact dispatch_to_idle (a := .AA_4) (ready (by rcases h68 with h | h <;> rw [h] <;> decide +kernel) nofun nofun)
        (fun _ _ _ => rfl)
  · rcases hcase with ⟨rfl, hne0⟩ | ⟨h6, rfl⟩ | ⟨h6, rfl, hdec⟩
    · -- Evt9: DT-1 (Sta6) / AR-7 (Sta8) pops one pending request
      rcases h68 with h6 | h8
      · exact dispatch_strm_row (a := .DT_1) (ready (by rw [h6]; decide +kernel) (fun _ => hne0) nofun) hp htl
          (fun _ _ _ => ⟨Or.inl rfl, rfl⟩) rfl
      · exact dispatch_strm_row (a := .AR_7) (ready (by rw [h8]; decide +kernel) (fun _ => hne0) nofun) hp htl
          (fun _ _ _ => ⟨Or.inr rfl, rfl⟩) rfl
    · -- Evt12 in Sta6: AR-2, the provider moves to Sta8 (where Evt9 is AR-7)
      exact dispatch_strm_row (a := .AR_2) (ready (by rw [h6]; decide +kernel) nofun nofun) hp htl
        (fun _ _ _ => ⟨Or.inr rfl, rfl⟩) rfl
    · -- Evt10 in Sta6 with a decodable payload: DT-2 queues nothing
      exact dispatch_strm_row (a := .DT_2) (ready (by rw [h6]; decide +kernel) nofun nofun) hp htl
        (fun _ _ _ => ⟨Or.inl rfl, rfl⟩) (by rw [altOf_false_of_headDecodable s _ _ hdec]; rfl)

theorem iterB_invS (s : St) (h : InvS s) : InvS (iterB s) := by
  rcases h with h | ⟨hd, hS⟩
  · exact Or.inl (iterB_inv s h)
  by_cases hrun : (!s.live || !s.phaseB) = true
  · rw [iterB_idle hrun]; exact Or.inr ⟨hd, hS⟩
  obtain ⟨hB, h68, hp, hq⟩ := hS
  cases heq : s.eventQ with
  | nil =>
    rw [iterB_nil hrun heq]
    exact Or.inr ⟨hd, hB, h68, hp, Or.inl (by rw [heq]; rfl)⟩
  | cons e rest =>
    rw [iterB_cons hrun heq]
    rw [heq] at hq
    refine dispatch_strm hd (hB.pop heq).1 (hB.pop heq).2 h68 hp ?_
    rcases hq with h | ⟨_, e', r, hcons, htl, hcase⟩
    · exact Or.inl h
    · obtain ⟨rfl, rfl⟩ := List.cons.inj hcons
      exact Or.inr ⟨htl, hcase⟩

theorem step_invS (s : St) (st : Step) (hok : stepOk s st = true) (h : InvS s) : InvS (step s st) := by
  cases st with
  | env e => exact env_invS s e hok h
  | a => exact iterA_invS s h
  | b => exact iterB_invS s h

theorem run_invS : ∀ (sched : List Step) (s : St), runOk s sched = true → InvS s → InvS (run s sched) := by
  intro sched
  induction sched with
  | nil => intro s _ h; exact h
  | cons st rest ih =>
    intro s hok h
    simp only [runOk, Bool.and_eq_true] at hok
    exact ih (step s st) hok.2 (step_invS s st hok.1 h)

end C05Inv

/-- **Under admissible local behaviour the reactor thread never dies**: for every schedule of reactor
micro-steps and environment steps in which the association code issues a primitive either at a
quiescent point and only if PS3.8 defines its event for the provider's current state, or as a streamed
P-DATA request in Sta6 (`streamOk`: only P-DATA requests pending, at any moment of the iteration, no
event already queued that leads to Sta13), and ARTIM expires only at a quiescent point — the peer
sending any well-formed or invalid PDU or closing at any time, sends failing, the connect failing —
every dispatched (event, state) pair has a table entry and every action finds its input: the thread
does not die. -/
theorem C05_defined_partial (requestor : Bool) (sched : List Step)
    (h : runOk (if requestor then initRequestor else initAcceptor) sched = true) :
    (run (if requestor then initRequestor else initAcceptor) sched).dead = false :=
  (C05Inv.run_invS sched _ h (Or.inl (C05Inv.inv_init requestor))).elim And.left And.left

/-- the synchronous special case: `runOkSync` implies `runOk` -/
theorem C05_defined_partial_sync (requestor : Bool) (sched : List Step)
    (h : runOkSync (if requestor then initRequestor else initAcceptor) sched = true) :
    (run (if requestor then initRequestor else initAcceptor) sched).dead = false :=
  C05_defined_partial requestor sched (runOk_of_sync sched _ h)

/-- `Wire.pdu e alt` is only meant for `e ∈ {3,4,6,10,12,13,16}` (its docstring), but the type admits
any `e`; a "PDU" carrying the number of a local event would be queued as that event.  Without the
`wireOk` clause of `stepOk` the statement is false of the model: -/
theorem C05_neg_wire_pdu_outside_domain :
    (run initAcceptor [.a, .b, .env (.peer (.pdu 1 false)), .a, .b]).dead = true := by decide +kernel

/-- the three schedules of `C05.lean` on which the thread dies are exactly not admissible -/
example :
    runOk initAcceptor [.a, .b, .env (.peer (.pdu 6 false)), .a, .b, .env (.local .accept), .a, .b,
      .env (.peer .invalid), .a, .b, .env (.local .pdata), .a, .b] = false ∧
    runOk initRequestor [.env (.local .assocRq), .a, .b, .a, .b, .env (.peer (.pdu 3 false)), .a, .b,
      .env (.peer (.pdu 12 false)), .a, .b, .env (.local .releaseRq), .a, .b] = false ∧
    runOk initAcceptor [.a, .b, .env (.peer (.pdu 6 false)), .a, .env .artimFire, .b, .a, .b] = false := by
  decide +kernel

-- non-vacuity (acceptor): request/accept, data both ways (peer PDUs arriving while the reactor is
-- busy), release requested by the peer, data and the release response sent locally, peer close
example : let sched : List Step :=
      [.a, .b, .env (.peer (.pdu 6 false)), .a, .b, .env (.local .accept), .a, .b,
       .env (.peer (.pdu 10 false)), .env (.peer (.pdu 10 false)), .a, .b, .a, .b,
       .env (.local .pdata), .env (.peer (.pdu 10 false)), .a, .b, .a, .b,
       .env (.peer (.pdu 12 false)), .a, .b, .env (.local .pdata), .a, .b, .env (.local .releaseRp), .a, .b,
       .env (.peer .eof), .a, .b]
    runOk initAcceptor sched = true ∧ (run initAcceptor sched).fsm = 1 ∧ (run initAcceptor sched).kill = true ∧
    (run initAcceptor sched).dead = false ∧ ((run initAcceptor sched).log.map (·.evt)).reverse =
      [5, 6, 7, 10, 10, 9, 10, 12, 9, 14, 17] := by decide +kernel

-- non-vacuity (requestor): connect, request/accept, data both ways, release requested locally, data
-- still arriving in Sta7, release response
example : let sched : List Step :=
      [.env (.local .assocRq), .a, .b, .a, .b, .env (.peer (.pdu 3 false)), .a, .b,
       .env (.local .pdata), .a, .b, .env (.peer (.pdu 10 false)), .a, .b,
       .env (.local .releaseRq), .env (.peer (.pdu 10 false)), .a, .b, .a, .b,
       .env (.peer (.pdu 13 false)), .a, .b]
    runOk initRequestor sched = true ∧ (run initRequestor sched).fsm = 1 ∧ (run initRequestor sched).kill = true ∧
    (run initRequestor sched).dead = false ∧ ((run initRequestor sched).log.map (·.evt)).reverse =
      [1, 2, 3, 9, 10, 11, 10, 13] := by decide +kernel

-- non-vacuity (abort paths): an invalid PDU during data transfer (AA-8), ARTIM expiring in Sta13
-- at a quiescent point (AA-2); and a local abort on a broken connection (AA-1, failed send, AR-5)
example :
    (let sched : List Step :=
      [.a, .b, .env (.peer (.pdu 6 false)), .a, .b, .env (.local .accept), .a, .b,
       .env (.peer .invalid), .a, .b, .env .artimFire, .env (.peer (.pdu 10 true)), .a, .b]
     runOk initAcceptor sched = true ∧ (run initAcceptor sched).dead = false ∧
     ((run initAcceptor sched).log.map (·.evt)).reverse = [5, 6, 7, 19, 18]) ∧
    (let sched : List Step :=
      [.a, .b, .env (.peer (.pdu 6 false)), .a, .b, .env (.local .accept), .a, .b, .env .breakConn,
       .env (.local (.abort false)), .a, .b, .a, .b]
     runOk initAcceptor sched = true ∧ (run initAcceptor sched).dead = false ∧
     ((run initAcceptor sched).log.map (·.evt)).reverse = [5, 6, 7, 15, 17]) := by decide +kernel

end PynetVerif
