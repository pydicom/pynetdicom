import PynetVerif.Props.C06Pair
import PynetVerif.Lemmas.Search
/-!
C06 on the product model, progress of the release handshake: the requestor's user asks for release at
a quiescent point of an established association, the acceptor's user answers when it can; no other
primitive is issued.  Every interleaving of the remaining steps — reactor micro-steps of both sides,
deliveries in both directions, ARTIM expiry on either side, the answer — is covered: the reachable
part of the product model is finite here and is enumerated and checked by the kernel.
-/
namespace PynetVerif
open Dul Fsm

-- the search compares product states (the models derive only `Repr`)
deriving instance DecidableEq for Dul.St
deriving instance DecidableEq for Pair

namespace PairRel
open Pair

/-- the steps that remain once the release has been requested: reactor micro-steps, deliveries, ARTIM
expiry, and the acceptor's user answering the release request -/
def moves : List PStep :=
  [.r .a, .r .b, .a .a, .a .b, .deliverRA, .deliverAR, .r (.env .artimFire), .a (.env .artimFire),
   .a (.env (.local .releaseRp))]

/-- an established association (`PairEx.estab`), both reactors quiescent, and the requestor's user has
just issued A-RELEASE request -/
def start : Pair := Pair.run Pair.init (PairEx.estab ++ [.r (.env (.local .releaseRq))])

def b2n (b : Bool) : Nat := if b then 1 else 0

/-- work done so far: dispatches (twice: phase A and phase B), a pending phase B, deliveries, EOFs,
expired timers, the answer issued (the primitive pending, or its Evt14 dispatched).  Every step that
changes the state adds exactly one. -/
def work (q : Pair) : Nat :=
  2 * q.r.log.length + b2n q.r.phaseB + 2 * q.a.log.length + b2n q.a.phaseB + q.rSeen + b2n q.rEof +
  q.aSeen + b2n q.aEof + b2n q.r.artim.expired + b2n q.a.artim.expired +
  b2n (q.a.provQ.contains .releaseRp || q.a.log.any (fun d => d.evt == 14))

def final (q : Pair) : Bool :=
  ended q.r && ended q.a && provOutcome q.r == .released && provOutcome q.a == .released

def succs (q : Pair) : List Pair := (moves.filter (Pair.stepOk q)).map (Pair.step q)

def okState (q : Pair) : Bool :=
  !q.r.dead && !q.a.dead && decide (work q ≤ 30) && (!(succs q).all (· == q) || final q) &&
  (succs q).all fun q' => q' == q || work q' == work q + 1

/-- the states seen, in four lists by their work counter modulo 4; whole product states are compared
only when their work counters agree -/
def seen : Search.Visited Pair (List (List Pair)) :=
  .lists 4 work (fun s q => work s == work q && s == q) fun _ _ h => beq_iff_eq.mp (Bool.and_eq_true_iff.mp h).2

/-- 60 product states -/
theorem S_check : Search.check seen succs 100 start okState = true := by
  decide +kernel

/-- the product states reachable from `start` by admissible remaining steps -/
def S : List Pair := Search.reach seen succs 100 start

theorem S_run : ∀ (sched : List PStep) (q : Pair), q ∈ S → (∀ m ∈ sched, m ∈ moves) →
    Pair.runOk q sched = true → Pair.run q sched ∈ S := by
  intro sched
  induction sched with
  | nil => intro q h _ _; exact h
  | cons m rest ih =>
    intro q h hM hok
    simp only [Pair.runOk, Bool.and_eq_true] at hok
    refine ih _ ((Search.reach_spec seen S_check).2.1 q h _ ?_) (fun m' h' => hM m' (List.mem_cons_of_mem _ h')) hok.2
    exact List.mem_map.mpr ⟨m, List.mem_filter.mpr ⟨hM m (List.mem_cons_self ..), hok.1⟩, rfl⟩

end PairRel

open PairRel in
/-- the starting point is reachable by an admissible schedule -/
example : Pair.runOk Pair.init (PairEx.estab ++ [.r (.env (.local .releaseRq))]) = true := by decide +kernel

open PairRel in
/-- **The release handshake completes, for every interleaving.**  From an established association in
which the requestor's user has asked for release at a quiescent point (`PairRel.start`), for every
admissible schedule of the remaining steps (`PairRel.moves`: reactor micro-steps of both sides,
deliveries in both directions, ARTIM expiry on either side, the acceptor's user answering):
neither thread dies; the work counter never exceeds 30 (it is 14 at the start); every step either
leaves the product state unchanged or adds exactly one to it — so at most 16 steps of any schedule
change the state; and a state in which no admissible step changes anything is one in which both
reactors have ended and both provider outcomes are `released`. -/
theorem C06_release_completes (sched : List PStep) (hM : ∀ m ∈ sched, m ∈ moves)
    (hok : Pair.runOk start sched = true) :
    let q := Pair.run start sched
    q.r.dead = false ∧ q.a.dead = false ∧ work start = 14 ∧ work q ≤ 30 ∧
    (∀ m ∈ moves, Pair.stepOk q m = true → Pair.step q m = q ∨ work (Pair.step q m) = work q + 1) ∧
    ((∀ m ∈ moves, Pair.stepOk q m = true → Pair.step q m = q) →
      ended q.r = true ∧ ended q.a = true ∧ provOutcome q.r = .released ∧ provOutcome q.a = .released) := by
  intro q
  have hq := (Search.reach_spec seen S_check).2.2 q
    (S_run sched start (Search.reach_spec seen S_check).1 hM hok)
  unfold okState at hq
  simp only [Bool.and_eq_true, List.all_eq_true, Bool.not_eq_true', decide_eq_true_eq, Bool.or_eq_true,
    beq_iff_eq] at hq
  obtain ⟨⟨⟨⟨h1, h2⟩, h3⟩, h4⟩, h5⟩ := hq
  have hsucc : ∀ m ∈ moves, Pair.stepOk q m = true → Pair.step q m ∈ succs q := fun m hm hokm =>
    List.mem_map.mpr ⟨m, List.mem_filter.mpr ⟨hm, hokm⟩, rfl⟩
  refine ⟨h1, h2, by decide +kernel, h3, fun m hm hokm => h5 _ (hsucc m hm hokm), fun hst => ?_⟩
  have hstuck : ∀ q' ∈ succs q, q' = q := by
    intro q' hq'
    obtain ⟨m, hm, he⟩ := List.mem_map.mp hq'
    rw [← he]
    exact hst m (List.mem_filter.mp hm).1 (List.mem_filter.mp hm).2
  rcases h4 with h4 | h4
  · rw [List.all_eq_true.mpr fun q' hq' => beq_iff_eq.mpr (hstuck q' hq')] at h4
    cases h4
  · unfold final at h4
    simp only [Bool.and_eq_true, beq_iff_eq] at h4
    exact ⟨h4.1.1.1, h4.1.1.2, h4.1.2, h4.2⟩

end PynetVerif
