import PynetVerif.Model.Pause
import PynetVerif.Gen.Pause
/-!
C06 (pause handshake) — the reactor never runs its iteration body while a user thread that has
passed the pause check is exchanging messages itself.

Without this, `release()` (or a `send_*`) and the reactor both consume the peer's messages: the
reactor answers the peer's A-RELEASE-RQ and reports *released* while `negotiate_release()` in the
user thread times out and reports *aborted* — one side with two terminal outcomes.  (Observed on the
real code, reproduced deterministically, repaired: known_findings.json.)
-/
namespace PynetVerif
open Pause

namespace PauseL

/-- inductive invariant of the repaired handshake -/
def Inv (s : St) : Bool :=
  (s.paused == (s.r == .wait || s.r == .clrP)) &&
  (s.chk == (s.u == .idle)) &&
  !(s.r == .body && s.u == .crit) &&
  -- the reactor re-checks only what a user that is messaging has cleared
  !(s.r == .recheck && s.u == .crit && s.chk)

theorem mem_allStates (s : St) : s ∈ allStates := by
  obtain ⟨r, u, p, c⟩ := s
  simp only [allStates, List.mem_flatMap, List.mem_map]
  exact ⟨r, by cases r <;> simp, u, by cases u <;> simp, p, by cases p <;> simp, c, by cases c <;> simp, rfl⟩

theorem inv_step (s : St) (w : Who) (h : Inv s = true) : Inv (step true s w) = true := by
  have all : ∀ s ∈ allStates, Inv s = true →
      Inv (step true s .reactor) = true ∧ Inv (step true s .user) = true := by decide +kernel
  cases w
  · exact (all s (mem_allStates s) h).1
  · exact (all s (mem_allStates s) h).2

theorem inv_reach (sched : List Who) : Inv (run true init sched) = true :=
  List.foldlRecOn sched (step true) (by decide) fun s hs w _ => inv_step s w hs

end PauseL

/-- **Mutual exclusion, every interleaving, any number of iterations and user calls**: with the
re-check after resetting the paused flag, the reactor's iteration body and a user's messaging
section never overlap. -/
theorem C06_pause_mutex (sched : List Who) : overlap (run true init sched) = false := by
  have h := PauseL.inv_reach sched
  simp only [PauseL.Inv, Bool.and_eq_true, Bool.not_eq_true'] at h
  exact h.1.2

/-- …and nobody waits for ever: in every reachable state at least one of the two threads can make a
step that changes the state (the reactor blocks only while a user is spinning or messaging, and a
user spins only until the reactor reaches its checkpoint). -/
theorem C06_pause_no_deadlock (sched : List Who) :
    let s := run true init sched
    step true s .reactor ≠ s ∨ step true s .user ≠ s := by
  have all : ∀ t ∈ allStates, PauseL.Inv t = true → step true t .reactor ≠ t ∨ step true t .user ≠ t := by
    decide +kernel
  exact all _ (PauseL.mem_allStates _) (PauseL.inv_reach sched)

/-- a user that has entered its messaging section got there with the reactor parked at, or on its
way back to, the checkpoint — never in the body -/
theorem C06_pause_user_enters_safely (sched : List Who) :
    let s := run true init sched
    s.u = .crit → s.r ≠ .body := by
  intro s hu hr
  have := C06_pause_mutex sched
  simp [overlap, hu, hr, s] at this

/-- the repaired defect, for the record: without the re-check the reactor leaves the checkpoint on a
stale wake-up and runs its body while the user is messaging — five steps suffice -/
theorem C06_pause_stale_flag_neg :
    overlap (run false init [.reactor, .reactor, .user, .user, .reactor]) = true := by decide

/-- the same five steps are harmless with the re-check: the reactor goes back to the checkpoint -/
example : (run true init [.reactor, .reactor, .user, .user, .reactor, .reactor]).r = .setP ∧
    overlap (run true init [.reactor, .reactor, .user, .user, .reactor, .reactor]) = false := by decide

/-- the source has the repaired shape: `_run_reactor` re-checks the checkpoint after resetting the
flag, and every method that clears the checkpoint then spins on `_is_paused` before messaging
(syntax facts regenerated from association.py on every run) -/
theorem C06_pause_code :
    Gen.Pause.reactorShape = "recheck" ∧ Gen.Pause.userSites.all (·.2) = true ∧
    Gen.Pause.userSites.length ≥ 12 := by decide

end PynetVerif
