import PynetVerif.Model.MaxAssoc
import PynetVerif.Spec.Reject
import PynetVerif.Lemmas.Strip
/-!
C14 — concurrent acceptor associations never exceed the configured maximum.

`MaxAssoc.step/run` model the acceptor threads and the limit check exactly as
the code performs it (count of live acceptor threads, the checking thread
included, strict `>`); a schedule is ANY list of actions.  The invariant is
`admitted ≤ max` (admitted = passed the check and not yet ended), proved for all
schedules of any length and any number of threads.  Real thread scheduling is
sampled by `harness/props/c14.py` (trace validation); the atomicity of
`threading.enumerate()` is an assumption of the model.
-/
namespace PynetVerif
open MaxAssoc

theorem countP_set_of_getElem? {α : Type} (p : α → Bool) (l : List α) (i : Nat) (a b : α)
    (h : l[i]? = some a) :
    (l.set i b).countP p + (if p a = true then 1 else 0) = l.countP p + (if p b = true then 1 else 0) := by
  obtain ⟨hi, ha⟩ := List.getElem?_eq_some_iff.mp h
  rw [List.countP_set hi, ha]
  by_cases hp : p a = true
  · -- `a` is in the list and counted, so the subtraction in `countP_set` is exact
    have : 0 < l.countP p := List.countP_pos_iff.mpr ⟨a, List.mem_of_getElem? h, hp⟩
    simp only [hp, if_true]
    omega
  · simp only [hp, Bool.false_eq_true, if_false]
    omega

theorem admitted_le_live (s : State) : admitted s ≤ live s := by
  apply List.countP_mono_left
  intro x _ hx
  cases x <;> simp_all [isAdmitted, isLive]

theorem established_le_admitted (s : State) : established s ≤ admitted s := by
  apply List.countP_mono_left
  intro x _ hx
  cases x <;> simp_all [isAdmitted, isEst]

theorem admitted_set_le {s : State} {i : Nat} {a b : Phase} (h : s[i]? = some a)
    (hab : isAdmitted b = true → isAdmitted a = true) : admitted (s.set i b) ≤ admitted s := by
  have := countP_set_of_getElem? isAdmitted s i a b h
  unfold admitted
  by_cases hb : isAdmitted b = true
  · simp only [hb, hab hb, if_true] at this
    omega
  · simp only [hb, Bool.false_eq_true, if_false] at this
    omega

theorem step_preserves (max : Nat) (s : State) (a : Act) (h : admitted s ≤ max) :
    admitted (step max s a) ≤ max := by
  cases a with
  | spawn => simpa [step, admitted, isAdmitted] using h
  | check i =>
    simp only [step]
    split
    · rename_i hs
      unfold checkPhase
      split
      · exact Nat.le_trans (admitted_set_le hs (by decide)) h
      · -- the one transition that admits: the check has seen `live s ≤ max`, and with the spawned
        -- thread passed one more is admitted and as many are live
        rename_i ho
        have h1 := countP_set_of_getElem? isAdmitted s i .spawned .passed hs
        have h2 := countP_set_of_getElem? isLive s i .spawned .passed hs
        have := admitted_le_live (s.set i .passed)
        rw [Policy.overLimit_iff] at ho
        simp [isAdmitted, isLive] at h1 h2
        unfold admitted live at *
        omega
    · exact h
  -- no other transition moves a thread to an admitted phase unless its old phase was admitted
  | establish i =>
    simp only [step]
    split
    · exact Nat.le_trans (admitted_set_le ‹_› (by decide)) h
    · exact h
  | finish i =>
    simp only [step]
    split
    · exact Nat.le_trans (admitted_set_le ‹_› (by decide)) h
    · exact Nat.le_trans (admitted_set_le ‹_› (by decide)) h
    · exact h
  | die i =>
    simp only [step]
    split
    · exact Nat.le_trans (admitted_set_le ‹_› (by decide)) h
    · exact Nat.le_trans (admitted_set_le ‹_› (by decide)) h
    · exact Nat.le_trans (admitted_set_le ‹_› (by decide)) h
    · exact h

/-- From any state that respects the bound, e.g. mid-run after `maximum_associations` was read
(threads already admitted are counted), no schedule breaks it. -/
theorem C14_invariant_from (max : Nat) (s : State) (h : admitted s ≤ max) (sched : List Act) :
    established (run max s sched) ≤ max ∧ admitted (run max s sched) ≤ max := by
  have : admitted (run max s sched) ≤ max :=
    List.foldlRecOn sched (step max) h fun s hs a _ => step_preserves max s a hs
  exact ⟨Nat.le_trans (established_le_admitted _) this, this⟩

/-- However many connections arrive and however the threads interleave, the
number of simultaneously established acceptor associations never exceeds `max`
(∀ schedules, ∀ prefixes — `sched` is arbitrary, so every intermediate state is
covered).  Holds for every `max`, in particular every value the setter admits (≥ 1). -/
theorem C14_invariant (max : Nat) (sched : List Act) :
    established (run max [] sched) ≤ max :=
  (C14_invariant_from max [] (Nat.zero_le _) sched).1

theorem step_check {s : State} {i : Nat} (max : Nat) (h : s[i]? = some .spawned) :
    (step max s (.check i))[i]? = some (checkPhase max (live s)) := by
  obtain ⟨hi, _⟩ := List.getElem?_eq_some_iff.mp h
  simp only [step, h]
  simp [hi]

/-- A check that sees more than `max` live acceptor threads rejects … -/
theorem C14_over_limit_rejected (max : Nat) (s : State) (i : Nat) (h : s[i]? = some .spawned)
    (hl : max < live s) : (step max s (.check i))[i]? = some .rejected := by
  rw [step_check max h, checkPhase, if_pos ((Policy.overLimit_iff ..).mpr hl)]

/-- … and the A-ASSOCIATE-RJ the acceptor then sends is (2, 3, 2) whatever the other
checks said — rejected-transient, service-provider (presentation), local-limit-exceeded
in PS3.8 Table 9-21. -/
theorem C14_over_limit_triple (p : Policy.Policy) (callingRaw calledRaw : Bytes)
    (identity : Option Policy.Identity) (active : Nat) (hl : p.maxAssoc < active)
    (hv : Policy.decideAssoc p callingRaw calledRaw identity active ≠ .invalid) :
    Policy.decideAssoc p callingRaw calledRaw identity active = .reject rejectTriple ∧
      Spec.Reject.meaning rejectTriple = some (Spec.Reject.documented .limit) := by
  refine ⟨?_, by decide⟩
  rw [Policy.decideAssoc_of_valid hv, Policy.negotiate_overLimit _ _ _ _ ((Policy.overLimit_iff ..).mpr hl)]
  rfl

/-- A check that sees at most `max` live acceptor threads admits (the limit check
itself never refuses below the limit). -/
theorem C14_within_limit_admitted (max : Nat) (s : State) (i : Nat) (h : s[i]? = some .spawned)
    (hl : live s ≤ max) : (step max s (.check i))[i]? = some .passed := by
  simp only [step_check max h, checkPhase, (Policy.overLimit_false_iff ..).mpr hl, Bool.false_eq_true, if_false]

-- max = 2: two associations get established, the third is rejected, and after one ends and its
-- thread is gone a fourth is admitted
example : established (run 2 [] [.spawn, .check 0, .establish 0, .spawn, .check 1, .establish 1]) = 2 := by
  decide
example : run 2 [] [.spawn, .check 0, .establish 0, .spawn, .check 1, .establish 1, .spawn, .check 2] =
    [.established, .established, .rejected] := by decide
example : run 2 [] [.spawn, .check 0, .establish 0, .spawn, .check 1, .establish 1, .spawn, .check 2,
      .finish 0, .die 0, .die 2, .spawn, .check 3, .establish 3] =
    [.dead, .established, .dead, .established] := by decide
-- the check counts threads, not associations: two simultaneous requests with max = 1 are BOTH
-- rejected when both threads are alive before either checks (under-admission; not a C14 violation)
example : run 1 [] [.spawn, .spawn, .check 0, .check 1] = [.rejected, .rejected] := by decide
-- … and a thread that is still winding down keeps a slot occupied
example : run 1 [] [.spawn, .check 0, .establish 0, .finish 0, .spawn, .check 1] = [.ended, .rejected] := by
  decide
example : ∃ (s : State) (i : Nat), s[i]? = some Phase.spawned ∧ 1 < live s :=
  ⟨[.established, .spawned], 1, rfl, by decide⟩

end PynetVerif
