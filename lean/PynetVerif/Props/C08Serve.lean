import PynetVerif.Model.Serve
import PynetVerif.Gen.Cancel
/-!
C08 — a request served meanwhile never blocks the operation the reactor is serving.

The C-GET / C-MOVE service classes call `send_c_store()` from the reactor thread, and `send_*()`
spins on `_is_paused`, which only `_serve_request` itself has set for them.  For every number of
such calls, every number of N-EVENT-REPORT requests served meanwhile in their own thread and every
interleaving, the spin loop is never met with the flag false, and `_serve_request` returns after a
fixed number of reactor steps — given that the side thread leaves the flag alone, which is read from
the source on every run.  With a side thread that writes the flag (the code before its repair) there
is a schedule after which no thread can ever take a step that changes anything.
-/
namespace PynetVerif
open Serve

namespace Serve

/-- inside the served section the flag is up -/
def Inv (s : St) : Prop :=
  match s.r with
  | .scp _ | .spin _ | .crit _ | .clrP => s.paused = true
  | _ => True

theorem side_keeps (calls : Nat) (s : St) :
    (step false calls s .side).r = s.r ∧ (step false calls s .side).paused = s.paused := by
  cases hs : s.s with
  | idle => by_cases hl : s.left = 0 <;> simp [step, hs, hl]
  | set | scp | clr => simp [step, hs]

theorem inv_step (calls : Nat) (s : St) (w : Who) (h : Inv s) : Inv (step false calls s w) := by
  cases w with
  | reactor =>
    unfold step
    cases hr : s.r with
    | setP => simp [Inv]
    | scp k => cases k <;> simp_all [Inv]
    | spin k => simp only [Inv, hr] at h; simp [h, Inv]
    | crit k => simp_all [Inv]
    | clrP => simp [Inv]
    | done => simp_all [Inv]
  | side =>
    unfold Inv
    rw [(side_keeps calls s).1, (side_keeps calls s).2]
    exact h

theorem inv_run (calls : Nat) (sched : List Who) (s : St) (h : Inv s) : Inv (run false calls s sched) :=
  List.foldlRecOn sched (step false calls) h fun s hs w _ => inv_step calls s w hs

theorem not_blocked_of_inv (s : St) (h : Inv s) : blocked s = false := by
  unfold blocked
  cases hr : s.r <;> simp_all [Inv]

/-- truncated subtraction: once done, no unit of the measure is left to use up -/
theorem measure_step (calls : Nat) (s : St) (w : Who) (h : Inv s) :
    measure calls (step false calls s w).r = measure calls s.r - reactorSteps [w] := by
  cases w with
  | side => rw [(side_keeps calls s).1]; rfl
  | reactor =>
    unfold step
    cases hr : s.r with
    | setP => simp [measure, reactorSteps]
    | scp k =>
      cases k with
      | zero => simp [measure, reactorSteps]
      | succ k => simp [measure, reactorSteps]; omega
    | spin k => simp only [Inv, hr] at h; simp [h, measure, reactorSteps]
    | crit k => simp [measure, reactorSteps]
    | clrP => simp [measure, reactorSteps]
    | done => simp [measure, hr]

theorem measure_zero (calls : Nat) (r : RPc) (h : measure calls r = 0) : r = .done := by
  cases r <;> simp [measure] at h ⊢ <;> omega

theorem terminates_gen (calls : Nat) (sched : List Who) : ∀ s, Inv s →
    measure calls s.r ≤ reactorSteps sched → (run false calls s sched).r = .done := by
  induction sched with
  | nil => exact fun s _ h => measure_zero calls _ (Nat.le_zero.mp h)
  | cons w rest ih =>
    intro s hinv h
    apply ih _ (inv_step calls s w hinv)
    have : reactorSteps (w :: rest) = reactorSteps [w] + reactorSteps rest := by
      cases w <;> simp [reactorSteps, Nat.add_comm]
    rw [measure_step calls s w hinv]
    omega

end Serve

/-- The side thread's `_serve_request` run leaves `_is_paused` alone (both writes stand under
`not isinstance(msg, N_EVENT_REPORT)`, N-EVENT-REPORT being the class served that way); the code
before the repair wrote it unconditionally. -/
theorem C08_serve_code :
    Serve.sideTouches Gen.Cancel.serveTry Gen.Cancel.pauseGuards Gen.Cancel.sideThread = false ∧
    Serve.sideTouches ["clear", "pause", "scp", "pause", "clear"] [] ["N_EVENT_REPORT"] = true := by decide

/-- **Never blocked**: for every number of `send_*()` calls of the handler, every number of requests
served meanwhile and every interleaving, the spin loop of a `send_*()` called from the reactor
thread is never met with the flag false. -/
theorem C08_serve_never_blocked (calls n : Nat) (sched : List Who) :
    blocked (run false calls (Serve.init n) sched) = false :=
  not_blocked_of_inv _ (inv_run calls sched _ trivial)

/-- **Returns**: whatever the other thread does in between, after `3 * calls + 3` steps of the
reactor thread `_serve_request` has returned. -/
theorem C08_serve_returns (calls n : Nat) (sched : List Who) (h : 3 * calls + 3 ≤ reactorSteps sched) :
    (run false calls (Serve.init n) sched).r = .done :=
  terminates_gen calls sched _ trivial h

/-- **The code before its repair**: one handler call, one N-EVENT-REPORT request.  After the
reactor has set the flag, the side thread runs to its end (and resets the flag); the handler's
`send_c_store()` then spins for ever — no step of any thread changes the state again. -/
theorem C08_serve_side_flag_neg :
    let s := run true 1 (Serve.init 1) [.reactor, .side, .side, .side, .side, .reactor]
    blocked s = true ∧ s.r = .spin 0 ∧ ∀ more : List Who, run true 1 s more = s := by
  refine ⟨by decide, by decide, fun more => ?_⟩
  -- the state is a fixed point of either thread's step
  refine List.foldlRecOn (motive := fun t => t = _) more (step true 1) rfl fun t ht w _ => ?_
  subst ht
  cases w <;> decide

-- the same schedule on the repaired code: not blocked, and three more reactor steps return
example : blocked (run false 1 (Serve.init 1) [.reactor, .side, .side, .side, .side, .reactor]) = false ∧
    (run false 1 (Serve.init 1) [.reactor, .side, .side, .side, .side, .reactor, .reactor, .reactor, .reactor, .reactor]).r = .done := by
  decide

end PynetVerif
