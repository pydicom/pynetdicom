import PynetVerif.Lemmas.PduLengths
import PynetVerif.Lemmas.PduPrim
import PynetVerif.Gen.PduLayout
import PynetVerif.Spec.Ps38Layout
/-!
C01 — every PDU value survives encode/decode and matches the PS3.8 byte layout.

`encode` is the reading of PS3.8 Tables 9-11 … 9-26 / PS3.7 D.3-1 … D.3-15 (Model/Pdu.lean);
`decode`, `toPrim`, `fromPrim` mirror pynetdicom (tied to the code by harness/props/c01.py on every
run).  `wf` (Model/PduWf.lean) is the decidable well-formedness predicate: AE titles of 1–16 legal
characters not all spaces, UIDs of 1–64 ASCII bytes without surrounding whitespace or trailing NUL,
odd context ids 1–255, PS3.8 result / source / reason codes, user-identity fields < 65536 bytes,
every enclosing u16 / u32 length fits.
-/
namespace PynetVerif.Pdu
open PynetVerif.PduLayout

/-! `encTable (specTable cls) env` writes the fields of the table `cls` of `Spec.ps38Layouts` in table order,
`env` giving the value of each named field.  With `C01_layout_tables` (code tables = spec tables) and the
byte-for-byte comparison of the harness (code bytes = `encode`), `C01_encode_follows_tables_*` pin the
produced bytes to the standard's layout. -/

inductive Val
  | n (x : Nat)
  | b (x : Bytes)
  | l (x : List Bytes)

def encField (typ : Option Nat) (env : String → Val) : Field → Bytes
  | .fld name w =>
    let x := if name = "item_type" || name = "pdu_type" then typ.getD 0
      else match env name with | .n x => x | _ => 0
    if w = 1 then [u8 x] else if w = 2 then u16 x else u32 x
  | .res w v => List.replicate w (u8 v)
  | .str name pad => match env name with | .b x => ljust pad x | _ => []
  | .bytes name => match env name with | .b x => x | _ => []
  | .items name => match env name with | .b x => x | _ => []
  | .uids name => match env name with | .l x => encRelated x | _ => []

def encTable (t : Table) (env : String → Val) : Bytes := t.fields.flatMap (encField t.typ env)
def specTable (cls : String) : Table := (Spec.ps38Layouts.find? (fun t => t.cls == cls)).getD default

def envOf (kv : List (String × Val)) (k : String) : Val :=
  match kv.find? (fun p => p.1 == k) with
  | some p => p.2
  | none => .n 0

theorem ljust0 (b : Bytes) : ljust 0 b = b := by simp [ljust]

theorem envOf_cons (k k' : String) (v : Val) (kv : List (String × Val)) :
    envOf ((k', v) :: kv) k = if k' == k then v else envOf kv k := by
  unfold envOf
  rw [List.find?_cons]
  cases k' == k <;> rfl

/-- Decides `enc… x = encTable (specTable cls) (envOf kv)`: all names are literals, so the lookup of the table,
the `item_type` / `pdu_type` tests of `encField` and the lookups in `kv` (`envOf_cons`) evaluate; what is left
of the two sides differs by equalities between length fields, linear in the lengths of the parts (`+arith`).
The table lookup is a `simp` call of its own so that the other 22 tables are passed over, not normalised. -/
macro "table_tac" : tactic =>
  `(tactic| (
    simp only [specTable, Spec.ps38Layouts, String.reduceBEq, BEq.rfl, List.find?_cons_of_pos, List.find?_cons_of_neg,
      Option.getD_some, Bool.false_eq_true, not_false_eq_true]
    simp +arith only [encTable, Spec.itemHead, Spec.pduHead, encField, envOf_cons, encSyn, encUser, encVar, encPdv,
      encode, encAssoc, tlv, ljust0, u8, u16, u32, String.reduceBEq, String.reduceEq, ↓reduceIte, decide_true,
      decide_false, Bool.false_eq_true, Bool.or_self, Bool.or_false, Bool.or_true, List.flatMap_cons, List.flatMap_nil,
      List.replicate, List.cons_append, List.nil_append, List.append_nil, List.length_cons, List.length_nil,
      List.length_append, List.length_flatMap, UInt8.reduceOfNat, UInt8.ofNat_one, Nat.succ_ne_self, Nat.reduceEqDiff,
      Nat.reduceMod, Nat.reduceDiv, Nat.reduceAdd, Nat.zero_mod, Nat.zero_add, Option.getD_some]))

end PynetVerif.Pdu

namespace PynetVerif
open Pdu PduLayout

/-- **generic TLV lemma**: `_generate_items` on an encoded item followed by anything yields that item
(type, body) and then the items of the rest. -/
theorem C01_tlv (t r : UInt8) (body rest : Bytes) (h : body.length < 65536) :
    split (tlv t r body ++ rest) =
      match split rest with
      | .ok tl => .ok ((t, body) :: tl)
      | .error e => .error e :=
  split_tlv t r body rest h

/-- **round trip**: decoding the bytes of a well-formed PDU gives the value back, up to what decoding
normalises (`canon`: leading / trailing spaces of the AE titles, not significant per PS3.8). For all
seven PDU kinds, every item and sub-item kind, any multiplicity. -/
theorem C01_roundtrip (p : PDU) (h : wf p = true) : decode (encode p) = .ok (canon p) :=
  decode_encode p (encOk_of_wf p h)

/-- **every length field is exact**: the PDU length, every item length and every embedded sub-length
of the encoded bytes equals the number of bytes it governs (independent walker `lengthsExact`). -/
theorem C01_lengths (p : PDU) (h : wf p = true) : lengthsExact (encode p) = true :=
  lengthsExact_encode p (encOk_of_wf p h)

/-- **layout tables**: the field order / widths / reserved bytes / type code of every `_encoders`
table of pdu.py and pdu_items.py (regenerated from the source on every run) equal the transcription
of the standard's tables.  A symmetric swap of two fields in encoder and decoder breaks this. -/
theorem C01_layout_tables :
    Gen.Pdu.layouts.map (fun t => ({ t with fields := mergeRes t.fields } : Table)) = Spec.ps38Layouts := by
  decide +kernel

/-- **the Lean encoder is the interpretation of the standard's tables**: for every PDU kind, `encode`
equals `encTable` of the transcribed table (fields in table order, integers big-endian in their
width, reserved bytes 00H, AE titles space-padded to 16, the type byte from the table), the named
fields taking the PDU's values; the PDU length is 68 + the item lengths / 4 / the PDV item lengths. -/
theorem C01_encode_follows_tables_pdu (ver : Nat) (c g : Bytes) (items : List VarItem) (r s d : Nat) (pdvs : List PDV) :
    encode (.rq ver c g items) = encTable (specTable "A_ASSOCIATE_RQ")
      (envOf [("pdu_length", .n (68 + (items.map lenVar).sum)), ("protocol_version", .n ver),
        ("called_ae_title", .b c), ("calling_ae_title", .b g), ("variable_items", .b (items.flatMap encVar))]) ∧
    encode (.ac ver c g items) = encTable (specTable "A_ASSOCIATE_AC")
      (envOf [("pdu_length", .n (68 + (items.map lenVar).sum)), ("protocol_version", .n ver),
        ("reserved_aet", .b c), ("reserved_aec", .b g), ("variable_items", .b (items.flatMap encVar))]) ∧
    encode (.rj r s d) = encTable (specTable "A_ASSOCIATE_RJ")
      (envOf [("pdu_length", .n 4), ("result", .n r), ("source", .n s), ("reason_diagnostic", .n d)]) ∧
    encode (.pdata pdvs) = encTable (specTable "P_DATA_TF")
      (envOf [("pdu_length", .n ((pdvs.map (fun p => 5 + p.data.length)).sum)),
        ("presentation_data_value_items", .b (pdvs.flatMap encPdv))]) ∧
    encode .relRq = encTable (specTable "A_RELEASE_RQ") (envOf [("pdu_length", .n 4)]) ∧
    encode .relRp = encTable (specTable "A_RELEASE_RP") (envOf [("pdu_length", .n 4)]) ∧
    encode (.abort s r) = encTable (specTable "A_ABORT_RQ")
      (envOf [("pdu_length", .n 4), ("source", .n s), ("reason_diagnostic", .n r)]) :=
  ⟨by table_tac, by table_tac, by table_tac, by table_tac, by table_tac, by table_tac, by table_tac⟩

/-- the same for the variable items, the syntax sub-items and the PDV item -/
theorem C01_encode_follows_tables_items (u : Bytes) (id res : Nat) (subs : List SynItem) (us : List UserSub) (p : PDV) :
    encVar (.appCtx u) = encTable (specTable "ApplicationContextItem")
      (envOf [("item_length", .n u.length), ("application_context_name", .b u)]) ∧
    encVar (.pcRq id subs) = encTable (specTable "PresentationContextItemRQ")
      (envOf [("item_length", .n (4 + (subs.flatMap encSyn).length)), ("presentation_context_id", .n id),
        ("abstract_transfer_syntax_sub_items", .b (subs.flatMap encSyn))]) ∧
    encVar (.pcAc id res subs) = encTable (specTable "PresentationContextItemAC")
      (envOf [("item_length", .n (4 + firstLen subs)), ("presentation_context_id", .n id),
        ("result_reason", .n res), ("transfer_syntax_sub_item", .b (subs.flatMap encSyn))]) ∧
    encVar (.userInfo us) = encTable (specTable "UserInformationItem")
      (envOf [("item_length", .n (us.flatMap encUser).length), ("user_data", .b (us.flatMap encUser))]) ∧
    encSyn (.abstract u) = encTable (specTable "AbstractSyntaxSubItem")
      (envOf [("item_length", .n u.length), ("abstract_syntax_name", .b u)]) ∧
    encSyn (.transfer u) = encTable (specTable "TransferSyntaxSubItem")
      (envOf [("item_length", .n u.length), ("transfer_syntax_name", .b u)]) ∧
    encPdv p = encTable (specTable "PresentationDataValueItem")
      (envOf [("item_length", .n (1 + p.data.length)), ("presentation_context_id", .n p.id),
        ("presentation_data_value", .b p.data)]) :=
  ⟨by table_tac, by table_tac, by table_tac, by table_tac, by table_tac, by table_tac, by table_tac⟩

/-- the same for the nine user-information sub-items (PS3.7 Annex D.3.3) -/
theorem C01_encode_follows_tables_user (n i q scu scp v t r : Nat) (u w info pf sf : Bytes) (rel : List Bytes) :
    encUser (.maxLen n) = encTable (specTable "MaximumLengthSubItem")
      (envOf [("item_length", .n 4), ("maximum_length_received", .n n)]) ∧
    encUser (.implUid u) = encTable (specTable "ImplementationClassUIDSubItem")
      (envOf [("item_length", .n u.length), ("implementation_class_uid", .b u)]) ∧
    encUser (.asyncOps i q) = encTable (specTable "AsynchronousOperationsWindowSubItem")
      (envOf [("item_length", .n 4), ("maximum_number_operations_invoked", .n i),
        ("maximum_number_operations_performed", .n q)]) ∧
    encUser (.role u scu scp) = encTable (specTable "SCP_SCU_RoleSelectionSubItem")
      (envOf [("item_length", .n (4 + u.length)), ("uid_length", .n u.length), ("sop_class_uid", .b u),
        ("scu_role", .n scu), ("scp_role", .n scp)]) ∧
    encUser (.implVer u) = encTable (specTable "ImplementationVersionNameSubItem")
      (envOf [("item_length", .n u.length), ("implementation_version_name", .b u)]) ∧
    encUser (.sopExt u info) = encTable (specTable "SOPClassExtendedNegotiationSubItem")
      (envOf [("item_length", .n (2 + u.length + info.length)), ("sop_class_uid_length", .n u.length),
        ("sop_class_uid", .b u), ("service_class_application_information", .b info)]) ∧
    encUser (.commonExt v u w rel) = encTable (specTable "SOPClassCommonExtendedNegotiationSubItem")
      (envOf [("sub_item_version", .n v),
        ("item_length", .n (2 + u.length + (2 + w.length + (2 + (encRelated rel).length)))),
        ("sop_class_uid_length", .n u.length), ("sop_class_uid", .b u),
        ("service_class_uid_length", .n w.length), ("service_class_uid", .b w),
        ("related_general_sop_class_identification_length", .n (encRelated rel).length),
        ("related_general_sop_class_identification", .l rel)]) ∧
    encUser (.userIdRq t r pf sf) = encTable (specTable "UserIdentitySubItemRQ")
      (envOf [("item_length", .n (6 + pf.length + sf.length)), ("user_identity_type", .n t),
        ("positive_response_requested", .n r), ("primary_field_length", .n pf.length), ("primary_field", .b pf),
        ("secondary_field_length", .n sf.length), ("secondary_field", .b sf)]) ∧
    encUser (.userIdAc u) = encTable (specTable "UserIdentitySubItemAC")
      (envOf [("item_length", .n (2 + u.length)), ("server_response_length", .n u.length),
        ("server_response", .b u)]) :=
  ⟨by table_tac, by table_tac, by table_tac, by table_tac, by table_tac, by table_tac, by table_tac, by table_tac,
   by table_tac⟩

/-- the three type maps of the code (`PDU_TYPES`, `PDU_ITEM_TYPES`, `dul._PDU_TYPES` with the event
each received PDU raises) agree with the standard's type codes / Table 9-10 and with each other -/
theorem C01_type_maps :
    Gen.Pdu.dulTypes = Spec.ps38PduTypes ∧
    Gen.Pdu.pduTypes = Spec.ps38PduTypes.map (fun x => (x.1, x.2.1)) ∧
    Gen.Pdu.itemTypes = Spec.ps38Layouts.filterMap (fun t =>
      match t.typ with
      | some n => if 16 ≤ n then some (n, t.cls) else none
      | none => none) := by
  decide +kernel

/-- the item-type dispatch of the Lean decoder knows exactly the item types of the standard's tables -/
theorem C01_known_types :
    (List.range 256).filter (fun n => knownType (UInt8.ofNat n)) = Gen.Pdu.itemTypes.map (·.1) := by
  decide +kernel

/-- **primitive round trip**: service primitive → PDU → bytes → PDU → primitive preserves every
transmitted parameter (AE titles up to padding, application context, presentation contexts with id /
abstract syntax / transfer syntaxes / result, the user-information list incl. roles, identity,
extended negotiation; result / source / reason codes; PDV list), for A-ASSOCIATE request / accept /
reject, P-DATA, A-RELEASE request / response, A-ABORT and A-P-ABORT. -/
theorem C01_primitive_roundtrip (a : Prim) (h : primWf a = true) :
    (match decode (encode (fromPrim a)) with
      | .ok p => toPrim p
      | .error e => .error e) = .ok (canonPrim a) := by
  have hwf : wf (fromPrim a) = true := by
    cases a <;> simp only [primWf, Bool.and_eq_true] at h <;> first | exact h | exact h.1 | exact h.1.1
  rw [C01_roundtrip _ hwf]
  exact toPrim_fromPrim a h

/-- for the PDUs without strings the primitive comes back unchanged -/
theorem C01_primitive_roundtrip_small (a : Prim) (h : primWf a = true)
    (hs : match a with | .assocRq .. => False | .assocAc .. => False | _ => True) :
    (match decode (encode (fromPrim a)) with
      | .ok p => toPrim p
      | .error e => .error e) = .ok a := by
  rw [C01_primitive_roundtrip a h]
  cases a <;> first | rfl | exact absurd hs id

/-- an A-ASSOCIATE-RQ with two presentation contexts, a role selection item, a type-2 user identity
and a common extended negotiation item with one related UID -/
def exampleRq : PDU :=
  .rq 1 [0x41, 0x4e, 0x59, 0x2d, 0x53, 0x43, 0x50, 0x20, 0x20] [0x20, 0x45, 0x43, 0x48, 0x4f]
    [.appCtx [0x31, 0x2e, 0x32, 0x2e, 0x38, 0x34, 0x30],
     .pcRq 1 [.abstract [0x31, 0x2e, 0x32], .transfer [0x31, 0x2e, 0x32, 0x2e, 0x31], .transfer [0x31, 0x2e, 0x33]],
     .pcRq 255 [.abstract [0x31, 0x2e, 0x34], .transfer [0x31, 0x2e, 0x35]],
     .userInfo [.maxLen 16382, .implUid [0x31, 0x2e, 0x39], .role [0x31, 0x2e, 0x32] 1 0,
       .userIdRq 2 1 [0x75, 0x73, 0x65, 0x72] [0x70, 0x77],
       .commonExt 0 [0x31, 0x2e, 0x32] [0x31, 0x2e, 0x36] [[0x31, 0x2e, 0x37]],
       .implVer [0x50, 0x59], .asyncOps 5 5, .sopExt [0x31, 0x2e, 0x32] [1, 2, 3]]]

example : wf exampleRq = true := by decide +kernel
example : decode (encode exampleRq) = .ok (canon exampleRq) := by decide +kernel
example : canon exampleRq ≠ exampleRq := by decide +kernel
example : lengthsExact (encode exampleRq) = true := by decide +kernel
example : wf (.ac 1 [0x41] [0x42] [.appCtx [0x31], .pcAc 1 0 [.transfer [0x31, 0x2e, 0x32]],
    .userInfo [.maxLen 0, .userIdAc [1, 2]]]) = true := by decide
example : wf (.pdata [⟨1, [3, 0]⟩, ⟨3, []⟩]) = true ∧ wf (.rj 1 1 7) = true ∧ wf (.abort 2 6) = true := by decide

def examplePrim : Prim :=
  .assocRq [0x20, 0x45, 0x43, 0x48, 0x4f] [0x41, 0x4e, 0x59, 0x20] (some [0x31, 0x2e, 0x32])
    [⟨1, some [0x31, 0x2e, 0x32], [[0x31, 0x2e, 0x33], [0x31, 0x2e, 0x34]], none⟩, ⟨3, some [0x31], [[0x32]], none⟩]
    [.maxLen 16382, .implUid [0x31, 0x2e, 0x39], .role [0x31, 0x2e, 0x32] true false,
     .userIdRq 2 true [0x75] [0x70], .commonExt [0x31] [0x32] [[0x33]]]

example : primWf examplePrim = true := by decide
example : primWf (.assocAc [0x41] [0x42] (some [0x31]) [⟨1, none, [[0x31, 0x2e, 0x32]], some 0⟩, ⟨3, none, [[0x32]], some 3⟩]
    [.maxLen 1, .userIdAc [7]]) = true := by decide
example : primWf (.assocRj 2 3 1) = true ∧ primWf (.pabort 4) = true ∧ primWf (.abort 0) = true ∧
    primWf (.pdata [(1, [3, 0])]) = true ∧ primWf .releaseRp = true := by decide
-- A-ABORT with source "provider" is not in the domain: on the wire it is an A-P-ABORT with reason 0
example : primWf (.abort 2) = false ∧ toPrim (fromPrim (.abort 2)) = .ok (.pabort 0) := by decide

end PynetVerif
