import PynetVerif.Model.Wake
import PynetVerif.Gen.Transport
/-!
C03 (continuation) — framing is independent of how the peer's bytes are grouped into TLS records, too.

`AssociationSocket.ready` decides whether the reactor reads a PDU; `select()` does not see bytes the TLS
layer has already decrypted.  The theorems hold for every sequence of complete PDUs and every grouping of
their bytes into records (`Model/Wake.lean`); that `ready` consults `pending()` for every `ssl.SSLSocket`,
whichever side wrapped it, is read from transport.py on every run.
-/
namespace PynetVerif.Wake

theorem recSize_bounds (recs : List Nat) {vis : Nat} (h : vis ≠ 0) :
    1 ≤ recSize recs vis ∧ recSize recs vis ≤ vis := by
  cases recs <;> simp only [recSize] <;> omega

/-- where the fuel bound comes from: two steps (decrypt a record, read from it) deliver at least one
byte, and the first is spared when bytes are pending -/
theorem take_total (c : Cfg) (fuel : Nat) (s : St) (recs : List Nat) (n : Nat)
    (hn : n ≤ total s) (hpl : c.tls = false → s.pend = 0) (hf : 2 * n ≤ fuel + min 1 s.pend) :
    total (take c fuel s recs n).1 + n = total s ∧ (c.tls = false → (take c fuel s recs n).1.pend = 0) := by
  fun_induction take c fuel s recs n with
  | case1 s recs n => exact ⟨(by omega : total s + n = total s), hpl⟩
  | case2 => exact ⟨rfl, hpl⟩
  | case3 fuel s recs n _ hplain =>
    have := hpl (by simpa using hplain)
    simp only [total] at hn ⊢
    exact ⟨by omega, fun _ => this⟩
  | case4 fuel s recs n _ htls hp k ih =>
    -- `k = min n s.pend`; forgetting its value keeps `omega` from splitting on it again and again
    have hk : 1 ≤ k ∧ k ≤ n ∧ k ≤ s.pend := by omega
    clear_value k
    simp only [total] at hn ih ⊢
    have := ih (by omega) (fun h => by simp [h] at htls) (by omega)
    exact ⟨by omega, this.2⟩
  | case5 fuel s recs n => simp only [total] at hn; omega
  | case6 fuel s recs n _ htls hp hv ih =>
    have hr := recSize_bounds recs hv
    simp only [total] at hn ih ⊢
    have := ih (by omega) (fun h => by simp [h] at htls) (by omega)
    exact ⟨by omega, this.2⟩

end PynetVerif.Wake

namespace PynetVerif
open Wake

/-- when `ready` is false nothing is left to read (plain socket, or TLS with `pending()` consulted) -/
theorem C03_no_pdu_stranded (c : Cfg) (s : St) (hw : WF c s) (hc : c.tls = false ∨ c.consultsPending = true)
    (hr : ready c s = false) : s.pdus = [] := by
  obtain ⟨ht, hp, hpl⟩ := hw
  -- both buffers are empty: `select()` sees the one, and the other is empty or consulted
  have hv : s.vis = 0 ∧ s.pend = 0 := by
    cases htls : c.tls with
    | false =>
      have := hpl htls
      simp [ready, htls] at hr
      exact ⟨hr, this⟩
    | true =>
      have hcp : c.consultsPending = true := by simpa [htls] using hc
      simpa [ready, htls, hcp] using hr
  cases hl : s.pdus with
  | nil => rfl
  | cons p rest =>
    have := hp p (by simp [hl])
    simp [total, hv.1, hv.2, hl] at ht
    omega

theorem Wake.iter_progress (c : Cfg) (s : St) (recs : List Nat) (hw : WF c s)
    (hc : c.tls = false ∨ c.consultsPending = true) (p : Nat) (rest : List Nat) (hl : s.pdus = p :: rest) :
    WF c (iter c s recs).1 ∧ (iter c s recs).1.pdus = rest := by
  have hr : ready c s = true := by
    cases hr : ready c s with
    | true => rfl
    | false => rw [C03_no_pdu_stranded c s hw hc hr] at hl; cases hl
  obtain ⟨ht, hp, hpl⟩ := hw
  rw [hl, List.sum_cons] at ht
  obtain ⟨h1, h3⟩ := take_total c (2 * (p + s.vis + s.pend) + 2) s recs p (by omega) hpl (by omega)
  simp only [iter, hr, ↓reduceIte, hl]
  refine ⟨⟨?_, fun q hq => hp q (by rw [hl]; exact List.mem_cons_of_mem _ hq), h3⟩, trivial⟩
  -- replacing `pdus` does not change `total`
  show total (take c _ s recs p).1 = rest.sum
  omega

/-- every PDU the peer wrote is read, whatever the grouping into records -/
theorem C03_every_pdu_read (c : Cfg) (hc : c.tls = false ∨ c.consultsPending = true) (s : St) (recs : List Nat)
    (hw : WF c s) : (iters c s.pdus.length s recs).pdus = [] := by
  generalize hn : s.pdus.length = n
  induction n generalizing s recs with
  | zero => simpa [iters] using hn
  | succ n ih =>
    cases hp : s.pdus with
    | nil => rw [hp] at hn; cases hn
    | cons p rest =>
      have := iter_progress c s recs hw hc p rest hp
      show (iters c n (iter c s recs).1 (iter c s recs).2).pdus = []
      exact ih _ _ this.1 (by rw [this.2]; rw [hp] at hn; simpa using hn)

/-- without `pending()`: two PDUs in one TLS record, the second is never read -/
theorem C03_stranded_without_pending_neg :
    WF ⟨true, false⟩ ⟨16, 0, [6, 10]⟩ ∧ ∀ n, (iters ⟨true, false⟩ (n + 1) ⟨16, 0, [6, 10]⟩ [16]).pdus = [10] := by
  refine ⟨⟨by decide, by decide, by decide⟩, fun n => ?_⟩
  -- the first iteration reads the 6-byte PDU and leaves the other 10 bytes decrypted, invisible to `select()`
  have h1 : iter ⟨true, false⟩ ⟨16, 0, [6, 10]⟩ [16] = (⟨0, 10, [10]⟩, []) := by decide
  have stuck : ∀ n recs, (iters ⟨true, false⟩ n ⟨0, 10, [10]⟩ recs).pdus = [10] := by
    intro n
    induction n with
    | zero => intro recs; rfl
    | succ n ih => intro recs; simpa [iters, iter, ready] using ih recs
  simp only [iters, h1]
  exact stuck n []

/-- the source fact (regenerated from transport.py): the `pending()` clause of `ready` is guarded by
"the socket is an `ssl.SSLSocket`" and nothing narrower -/
theorem C03_ready_consults_pending_code :
    Gen.Transport.pendingGuard = "_HAS_SSL and isinstance(self.socket, ssl.SSLSocket)" ∧
    Gen.Transport.pendingReturn = "bool(ready) or bool(self.socket.pending())" :=
  ⟨rfl, rfl⟩

/-- the configuration the code realises on a TLS / plain socket -/
def codeCfgWake (tls : Bool) : Cfg :=
  ⟨tls, Gen.Transport.pendingGuard == "_HAS_SSL and isinstance(self.socket, ssl.SSLSocket)"⟩

theorem C03_every_pdu_read_as_coded (tls : Bool) (s : St) (recs : List Nat) (hw : WF (codeCfgWake tls) s) :
    (iters (codeCfgWake tls) s.pdus.length s recs).pdus = [] := by
  refine C03_every_pdu_read (codeCfgWake tls) (Or.inr ?_) s recs hw
  simp [codeCfgWake, C03_ready_consults_pending_code.1]

-- non-vacuity: three PDUs in two records on a TLS socket
example : WF ⟨true, true⟩ ⟨26, 0, [6, 10, 10]⟩ ∧ (iters ⟨true, true⟩ 3 ⟨26, 0, [6, 10, 10]⟩ [16, 10]).pdus = [] := by
  refine ⟨⟨by decide, by decide, by decide⟩, by decide⟩

end PynetVerif
