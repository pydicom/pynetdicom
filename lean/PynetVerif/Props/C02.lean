import PynetVerif.Lemmas.PduBounded
import PynetVerif.Lemmas.PduPrim
import PynetVerif.Lemmas.PduOverflow
/-!
C02 — arbitrary received bytes never crash the provider or yield unstable PDUs.

`classify` models one `DULServiceProvider._read_pdu_data()`: framing (Model/Framing.lean, C03), then
`accept` = `PDU.decode` followed by `to_primitive()` (both inside the try of `_read_pdu_data`).
Its result type has exactly five constructors — closed (Evt17), unrecognised (Evt19, PDU type),
invalid (Evt19, any exception of decoding / conversion), ok (the PDU's event), levelViolation (a
known item type at a nesting level the typed model does not represent: outside the modelled
domain) — and every function involved is total, defined by structural recursion (on a fuel equal
to the input length where the loop variant is not structural): that Lean accepts the definitions
is the termination ("never hangs") argument for the model; `C02_fuel_irrelevant` shows the fuel is
never the reason for a result.
-/
namespace PynetVerif
open Pdu

/-- the fuel (= input length) never runs out: any larger fuel gives the same result -/
theorem C02_fuel_irrelevant (b : Bytes) (f : Nat) (h : b.length ≤ f) :
    splitItems f b = split b ∧ decPdvsN f b = decPdvs b ∧ decRelatedN f b = decRelated b :=
  ⟨splitItems_fuel f b.length b h (Nat.le_refl _), decPdvsN_fuel f b.length b h (Nat.le_refl _),
   decRelatedN_fuel f b.length b h (Nat.le_refl _)⟩

/-- **no conformant PDU is rejected**: one `_read_pdu_data()` on the encoding of any well-formed PDU
(whatever follows it on the stream) classifies it `ok` with the PDU's canonical value — never
Evt17, never Evt19. -/
theorem C02_accepts_conformant (p : PDU) (h : wf p = true) (more : Bytes) :
    classify (encode p ++ more) = .ok (canon p) := by
  obtain ⟨a, ha⟩ := toPrim_total_of_wf p h
  exact classify_encode p (encOk_of_wf p h) ha more

/-- what ANY decoder output satisfies, for ALL byte strings: numbers within their field widths, strings
ASCII without surrounding whitespace, validated UIDs ≤ 64 bytes, AE titles legal, role bytes 0/1 … -/
theorem C02_bounded (b : Bytes) (p : PDU) (h : decode b = .ok p) : bounded p = true :=
  decode_bounded b p h

/-- the full statement `∀ b p, decode b = .ok p → decode (encode p) = .ok p` is FALSE for the code as
it is (four shapes, witnesses below); it holds for every decoder output that is `normal`. -/
theorem C02_stable_partial (b : Bytes) (p : PDU) (h : decode b = .ok p) (hn : normal p = true) :
    decode (encode p) = .ok p :=
  decode_encode_of_bounded_normal p (decode_bounded b p h) hn

/-- the same at the level of `_decode_pdu` (decode + to_primitive) -/
theorem C02_stable_accept_partial (b : Bytes) (p : PDU) (h : accept b = .ok p) (hn : normal p = true) :
    accept (encode p) = .ok p := by
  obtain ⟨hd, a, ha⟩ := accept_ok.mp h
  exact accept_ok.mpr ⟨C02_stable_partial b p hd hn, a, ha⟩

/-- `normal` excludes nothing the standard allows, and what it admits the code's encoder can serialise -/
theorem C02_normal_of_wf (p : PDU) (h : wf p = true) : normal p = true ∧ encodable p = true :=
  ⟨normal_of_wf p h, encodable_of_normal p (normal_of_wf p h)⟩

/-- every result of `classify` is one of the five cases, and an `ok` result carries a bounded PDU that
`to_primitive()` accepted -/
theorem C02_no_escape (s : Bytes) :
    classify s = .closed ∨ classify s = .unrecognised ∨ (∃ e, classify s = .invalid e) ∨
    classify s = .levelViolation ∨
    (∃ p, classify s = .ok p ∧ bounded p = true ∧ ∃ b a, decode b = .ok p ∧ toPrim p = .ok a) := by
  simp only [classify]
  split
  · exact Or.inl rfl
  · exact Or.inr (Or.inl rfl)
  · rename_i b _ _ _
    split
    · rename_i p hp
      obtain ⟨hd, a, ha⟩ := accept_ok.mp hp
      exact Or.inr (Or.inr (Or.inr (Or.inr ⟨p, rfl, decode_bounded b p hd, b, a, hd, ha⟩)))
    · exact Or.inr (Or.inr (Or.inr (Or.inl rfl)))
    · exact Or.inr (Or.inr (Or.inl ⟨_, rfl⟩))

/-! ## the four instabilities of the current code (concrete witnesses, replayed on the implementation
by harness/props/c02.py `WITNESSES`) -/

def assocHead (t : UInt8) (len : UInt8) : Bytes :=
  [t, 0, 0, 0, 0, len, 0, 1, 0, 0] ++ (0x41 :: List.replicate 15 0x20) ++ (0x42 :: List.replicate 15 0x20) ++
    List.replicate 32 0

/-- A-ASSOCIATE-AC whose Application Context Name field is b"1\x00\x00" -/
def witnessUidNul : Bytes := assocHead 2 75 ++ [0x10, 0, 0, 3, 0x31, 0, 0]

/-- `_wrap_uid_bytes` strips ONE trailing NUL: the decoded name is "1\x00"; re-encoded and re-decoded it
is "1". -/
theorem C02_stable_neg_uid_trailing_nul :
    ∃ b p, accept b = .ok p ∧ decode (encode p) ≠ .ok p :=
  ⟨witnessUidNul, .ac 1 [0x41] [0x42] [.appCtx [0x31, 0]], by decide, by decide⟩

/-- A-ASSOCIATE-AC with one Presentation Context item (AC) carrying two Transfer Syntax sub-items -/
def witnessPcAcMulti : Bytes :=
  assocHead 2 86 ++ [0x21, 0, 0, 14, 1, 0, 0, 0, 0x40, 0, 0, 1, 0x31, 0x40, 0, 0, 1, 0x32]

/-- `PresentationContextItemAC.item_length` counts only the first sub-item: the re-encoded item
announces 9 bytes but 14 follow; re-decoding does not give the PDU back. -/
theorem C02_stable_neg_pcac_multi :
    ∃ b p, accept b = .ok p ∧ decode (encode p) ≠ .ok p :=
  ⟨witnessPcAcMulti, .ac 1 [0x41] [0x42] [.pcAc 1 0 [.transfer [0x31], .transfer [0x32]]], by decide, by decide⟩

/-- A-ASSOCIATE-RQ with a Presentation Context item whose Transfer Syntax sub-item is empty (40 00 00 00) -/
def witnessEmptyTs : Bytes :=
  assocHead 1 85 ++ [0x20, 0, 0, 13, 1, 0, 0, 0, 0x30, 0, 0, 1, 0x31, 0x40, 0, 0, 0]

/-- the PDU passes `_decode_pdu` (decode and to_primitive) but holds a Transfer Syntax name `None`,
on which the code's `encode()` raises (`encodable` = the code can serialise the value; the harness
checks `encodable` against the real `encode()` on every accepted mutant). -/
theorem C02_stable_neg_empty_ts_unencodable :
    ∃ b p, accept b = .ok p ∧ encodable p = false :=
  ⟨witnessEmptyTs, .rq 1 [0x41] [0x42] [.pcRq 1 [.abstract [0x31], .transfer []]], by decide, by decide⟩

/-- decoders that ignore an embedded length field accept items whose re-encoding is LONGER than the
received bytes: a 65535-byte User Information item holding a User Identity AC sub-item without its
2-byte length field (`witnessOverflow`, 65613 bytes, Lemmas/PduOverflow.lean) is accepted, is not
`normal` (its user data would need 65537 bytes), and its re-encoding does not decode
(pynetdicom's `encode()` raises `struct.error` there). -/
theorem C02_stable_neg_length_overflow :
    ∃ b p, accept b = .ok p ∧ normal p = false ∧ ∃ e, decode (encode p) = .error e :=
  ⟨witnessOverflow, _, accept_ovBytes _ List.length_replicate, ovPdu_not_normal _ List.length_replicate,
   ovPdu_reencode_fails _ List.length_replicate⟩

-- a non-trivial decoder output that is normal (padding NUL stripped, spaces stripped)
example : accept (assocHead 1 90 ++ [0x20, 0, 0, 18, 1, 0, 0, 0, 0x30, 0, 0, 2, 0x31, 0, 0x40, 0, 0, 4, 0x31, 0x2e, 0x32, 0x20])
    = .ok (.rq 1 [0x41] [0x42] [.pcRq 1 [.abstract [0x31], .transfer [0x31, 0x2e, 0x32]]]) := by decide
example : normal (.rq 1 [0x41] [0x42] [.pcRq 1 [.abstract [0x31], .transfer [0x31, 0x2e, 0x32]]]) = true := by decide
-- and one that is not
example : normal (.ac 1 [0x41] [0x42] [.appCtx [0x31, 0]]) = false := by decide
-- malformed inputs land in every class
example : classify [7, 0, 0, 0, 0, 4, 0, 0, 3, 0] = .invalid .value := by decide       -- A-ABORT source 3
example : classify [9, 0, 0, 0, 0, 0] = .unrecognised := by decide
example : classify [7, 0, 0, 0, 0, 4, 0, 0] = .closed := by decide
example : classify (assocHead 1 73 ++ [0x40, 0, 0, 1, 0x31]) = .levelViolation := by decide
example : classify [4, 0, 0, 0, 0, 4, 0, 0, 0, 0] = .invalid .struct := by decide      -- PDV of length 0, no context id

end PynetVerif
