import PynetVerif.Props.C15
/-!
C16 — every DIMSE message pynetdicom sends is completely receivable: the
command set announces a data set (CommandDataSetType ≠ 0x0101) exactly when
data-set fragments are sent, so the peer's `decode_msg` completes.

`Dimse.primToMsg` mirrors the data-set half of `primitive_to_message` as it is
now (`if self.data_set and self.data_set.getvalue()`, then `_dataset_path`);
`Dimse.DsShape` enumerates the shapes of the data-set parameter the public API
and the service classes produce (class without such a parameter, `None`, a
`BytesIO` of any content incl. empty, `None` + `_dataset_path`).  The only
writer of `_dataset_path` on the sending side is `Association.send_c_store`,
which leaves `DataSet` = `None` (checked syntactically by the harness on every
run).  `C16_flag_iff_raw` says what would happen for the other combinations of
the private attributes.
-/
namespace PynetVerif
open Dimse

/-- All combinations of the (private) attributes `primitive_to_message` reads:
flag and fragments agree unless `_dataset_path` is set while the effective
`data_set` is an empty stream (a class without data-set parameter, or an empty
`BytesIO` together with a path) — combinations no sender in pynetdicom
produces. -/
theorem C16_flag_iff_raw (p : Prim) (ctx : Nat) (cmd : Bytes) (max : Nat)
    (hm : max = 0 ∨ 7 ≤ max) (hc : cmd ≠ []) (hp : (primToMsg p).pathOk) :
    ((primToMsg p).hasDS = true ↔ dataFrags (encodeMsgFull ctx cmd (primToMsg p) max).1 ≠ []) ↔
      ¬ (p.path.isSome = true ∧ (primToMsg p).dataSet = some []) := by
  -- fragments are sent iff there are bytes or `encode_msg` reads a file; the rest is a Boolean table
  rw [(frags_encode ctx cmd _ max hm hc hp).2, Ne, mark_eq_nil, dataChunks_eq_nil _ max hm]
  obtain ⟨_ | _, _ | b, _ | fo⟩ := p <;> simp [primToMsg, Msg.bytes, Msg.fromFile]

/-- The flag says "data set present" iff at least one data-set fragment is
sent, for every shape of the data-set parameter. -/
theorem C16_flag_iff (s : DsShape) (ctx : Nat) (cmd : Bytes) (max : Nat)
    (hm : max = 0 ∨ 7 ≤ max) (hc : cmd ≠ []) (hs : s.ok) :
    (primToMsg s.toPrim).hasDS = true ↔
      dataFrags (encodeMsgFull ctx cmd (primToMsg s.toPrim) max).1 ≠ [] :=
  (C16_flag_iff_raw s.toPrim ctx cmd max hm hc (DsShape.pathOk_of_ok s hs)).mpr
    -- no shape combines a path with a stream
    (by cases s <;> simp [DsShape.toPrim, primToMsg])

theorem C16_bytes (s : DsShape) : (primToMsg s.toPrim).bytes = s.bytes := by
  cases s <;> rfl

/-- Receivability: if the peer reads CommandDataSetType as it was written (`noDS cmd = some (!flag)`;
command-set codec, C17), then for every shape of the data-set parameter and every regrouping of the
sent PDVs the peer's `decode_msg` completes with exactly the command-set and data-set bytes, having
consumed every primitive. -/
theorem C16_receivable (noDS : Bytes → Option Bool) (s : DsShape) (ctx : Nat) (cmd : Bytes) (max : Nat)
    (hm : max = 0 ∨ 7 ≤ max) (hc : cmd ≠ []) (hs : s.ok)
    (hcodec : noDS cmd = some (!(primToMsg s.toPrim).hasDS))
    (g : List (List PDV)) (hg : g.flatten = (encodeMsgFull ctx cmd (primToMsg s.toPrim) max).1)
    (hne : ∀ x ∈ g, x ≠ []) :
    decodeMsg noDS {} g =
      ({ cmdBuf := cmd, ds := s.bytes, ctx := some ctx, cmd := some cmd }, .complete, []) := by
  have hflag : noDS cmd = some (dataFrags (encodeMsgFull ctx cmd (primToMsg s.toPrim) max).1).isEmpty := by
    have h := C16_flag_iff s ctx cmd max hm hc hs
    rw [← List.isEmpty_eq_false_iff] at h
    rw [hcodec]
    cases hf : (primToMsg s.toPrim).hasDS <;> simp_all
  obtain ⟨h1, h2, h3⟩ :=
    C15_reassemble noDS ctx cmd _ max hm hc (DsShape.pathOk_of_ok s hs) hflag g hg
  rw [C16_bytes] at h1
  exact Prod.ext h1 (Prod.ext h2 (h3 hne))

/-- If instead the flag and the fragments disagreed, the peer would not
complete: a flag announcing a data set that is not sent leaves `decode_msg`
waiting (`more`) after every primitive has been consumed — the defect repaired
by `fix: do not announce a data set for an empty data set stream`. -/
theorem C16_mismatch_never_completes (noDS : Bytes → Option Bool) (ctx : Nat) (cmd : Bytes) (max : Nat)
    (hm : max = 0 ∨ 7 ≤ max) (hc : cmd ≠ []) (hbad : noDS cmd = some false)
    (g : List (List PDV)) (hg : g.flatten = (encodeMsg ctx cmd (some []) max).1) :
    (decodeMsg noDS {} g).2.1 = .more := by
  rw [(decodeMsg_flatten noDS g {}).2.1, hg, encodeMsg_eq ctx cmd (some []) max hm hc,
    decodePDVs_sent noDS ctx _ _ (chunksOf_ne_nil cmd max hm hc), flatten_chunksOf cmd max hm, hbad]
  rfl

/-- the message-kind table regenerated from `_MESSAGE_TYPES`/`_DATASET_KEYWORDS`:
23 kinds, command fields and class names pairwise distinct (so the inversion
`rev_type` in `primitive_to_message` is one-to-one), every field 16-bit, and a
response kind for every request kind but C-CANCEL. -/
theorem C16_kinds_wellformed :
    Gen.Dimse.messageTypes.length = 23 ∧
    (Gen.Dimse.messageTypes.map (·.1)).Nodup ∧
    (Gen.Dimse.messageTypes.map (·.2.1)).Nodup ∧
    (∀ t ∈ Gen.Dimse.messageTypes, t.1 < 65536) ∧
    (∀ t ∈ Gen.Dimse.messageTypes, t.1 < 0x8000 → t.1 ≠ 0x0FFF →
      (Gen.Dimse.messageTypes.map (·.1)).contains (t.1 + 0x8000) = true) := by
  decide +kernel

-- non-vacuity: the four parameter shapes on concrete values
example : (primToMsg (DsShape.stream []).toPrim).hasDS = false ∧
    (primToMsg (DsShape.stream [1]).toPrim).hasDS = true ∧
    (primToMsg DsShape.absent.toPrim).hasDS = false ∧
    (primToMsg DsShape.noParam.toPrim).hasDS = false ∧
    (primToMsg (DsShape.file [0, 0] 2).toPrim).hasDS = true := by decide

example : dataFrags (encodeMsgFull 1 [7, 7] (primToMsg (DsShape.file [0, 0] 2).toPrim) 8).1 = [⟨1, 2, []⟩] := by
  decide

example : (DsShape.file [0, 0, 9] 2).ok ∧ (DsShape.file [0, 0] 2).ok ∧ (DsShape.stream []).ok := by
  refine ⟨?_, ?_, trivial⟩ <;> simp [DsShape.ok]

-- the excluded raw combination: a path together with an empty stream
example : (primToMsg ⟨true, some [], some ([1, 2, 3], 0)⟩).hasDS = true ∧
    dataFrags (encodeMsgFull 1 [7, 7] (primToMsg ⟨true, some [], some ([1, 2, 3], 0)⟩) 8).1 = [] := by
  decide

end PynetVerif
