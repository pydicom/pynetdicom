import PynetVerif.Lemmas.Scu
import PynetVerif.Gen.Pause
/-!
C24 (continuation) — the generator calls hand out their LAST item with the reactor running.

`_wrap_find_responses` and `_wrap_get_move_responses` set `_reactor_checkpoint` before the final
`yield` (and again after the loop).  User code commonly stops iterating at the final response and
never resumes the generator; what keeps the association alive and bounded afterwards (the peer's
A-RELEASE-RQ / A-ABORT, the idle timeout - C07, C08) is the reactor, so the item the caller stops
at must be handed out with the checkpoint set.  Proved for every peer behaviour.
-/
namespace PynetVerif
open Scu Status Spec.Scu

/-- **The last item is handed out with the reactor running** (C-GET / C-MOVE): for every peer, unless an
exception escapes the generator, the sequence of items handed to the caller ends with one that is
yielded after `_reactor_checkpoint.set()` - a caller that stops iterating at the final response (and
never resumes the generator) leaves the reactor running, so the peer's later PDUs and the idle timeout
are still seen. -/
theorem C24_getmove_last_item_reactor_running (peer : List PeerMsg) (hr : raised (sendCGet peer) = false) :
    ∃ pre y, observe St.init (sendCGet peer) = pre ++ [y] ∧ y.paused = false :=
  (wrapGetMove_safe peer).2.2.2 hr

/-- the same for C-FIND (no exception ever escapes it, `C24_find_checkpoint_restored`) -/
theorem C24_find_last_item_reactor_running (rq : Bool) (peer : List PeerMsg) :
    ∃ pre y, observe St.init (sendCFind rq peer) = pre ++ [y] ∧ y.paused = false :=
  (wrapFind_safe rq peer).2.2.2 (wrapFind_meets rq peer).2.2

/-- the source fact: in both wrappers every `yield` that ends the generator comes directly after
`self._reactor_checkpoint.set()` (regenerated from association.py on every run) -/
theorem C24_final_yield_code :
    Gen.Pause.finalYields = [("_wrap_find_responses", 4, true), ("_wrap_get_move_responses", 4, true)] := by
  decide

/-- the defect a change would reintroduce, as a witness on a variant of the generator that sets the
checkpoint only after the loop: its last item is handed out with the reactor still paused -/
theorem C24_last_item_paused_without_early_set_neg :
    ∃ y, observe St.init (prologue ++ [.recv, .yield (some 0) .none, .setCkpt]) = [y] ∧ y.paused = true :=
  ⟨_, rfl, rfl⟩
end PynetVerif
