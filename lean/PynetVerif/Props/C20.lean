import PynetVerif.Lemmas.ScpServices
/-!
C20 — each service request gets exactly one final response with its message ID.

Model: `Scp.findScp` (`_c_find_scp`, the C-FIND of every service class that has one; `FindTable`
is shown below of the Query/Retrieve, Substance Administration and Unified Procedure Step tables),
`Scp.rpScp` (Relevant Patient Information Query), `Scp.getScp`,
`Scp.moveScp`, `Scp.echoScp`, `Scp.statusOnlyScp` (C-STORE, N-DELETE), `Scp.nScp` (N-ACTION,
N-CREATE, N-EVENT-REPORT, N-GET, N-SET) — for EVERY handler behaviour (`Scp.Handler`: generator
item lists of any length, plain functions, raises, association events) and every status table
that is a `StdTable` (proved for every `*_STATUS` dict of status.py, regenerated: `stdTable_all`).
The table hypotheses (`FindTable`, `StdTable`) are discharged for the real tables in the `example`s
at the end of the file, which the runner's audit of `theorem C20_…` does not list.

`Conforms repo quiet out` = no exception escapes `SCP()` ∧ nothing is sent after a final
response ∧ (no abort/release event ⇒ the last response exists and is final), where "non-final"
admits only the Pending codes and, for the Repository Query SOP class (`repo`), 0xB001.

The property does NOT hold for all behaviours of the current code.  Each violation has a
`_neg` theorem with a concrete witness (replayed on the real code by harness/props/c20.py, known
findings) and the `_partial` theorems carry the exact excluded hypotheses:
* `_c_find_scp` treats every Warning status as non-final (`continue`);
* the Relevant Patient SCP sends nothing at all for a Warning status;
* a yielded/returned value that does not unpack into (status, dataset) raises out of `SCP()`
  (the association is then aborted by `_serve_request`, no final response);
* a Pending-category status the service's table does not know (0xFF01 for C-GET/C-MOVE, any
  Pending code for the single-response services) is sent as is and nothing follows;
* a status Dataset containing MessageIDBeingRespondedTo overwrites the response's message id.
-/
namespace PynetVerif
open Scp
open Status (Category)

/-- `_c_find_scp`, every handler whose values unpack, whose table-unknown statuses are not
Pending-looking and whose Warning statuses are legitimate non-final ones (`GoodFindH`): the
responses are non-final* ++ [final] — or non-final* if an abort/release intervened. -/
theorem C20_shape_find_partial {t : Table} (ht : FindTable t) (repo : Bool) (cx m : Nat) (h : Handler)
    (hg : GoodFindH t repo h) : Conforms repo h.quiet (findScp t cx m h) := by
  -- a plain function: the SCP makes up a generator of one item
  have one : ∀ (e : Ev) (it : Item), it.quiet = true → (∀ v ∈ stepVals [it], GoodFind t repo v) →
      Conforms repo e.quiet (if !(({} : St).apply e).est then Out.nil
        else findLoop t cx [it] (({} : St).apply e) { msgIdResp := m }) := by
    intro e it hit hgood
    split
    · next hn =>
      exact conforms_nil_any (not_quiet_of_down (up := (({} : St).apply e).est) (fun hq => by rw [St.apply_quiet hq])
        (by simpa using hn))
    · refine findLoop_conforms ht repo cx _ _ _ _ hgood fun hq => ?_
      rw [St.apply_quiet hq]
      exact ⟨rfl, by simp [hit]⟩
  have raised : ∀ v ∈ stepVals [Item.raise true {}], GoodFind t repo v := by
    intro v hv
    cases List.mem_singleton.mp hv
    exact goodFind_int rfl ht.exc nofun
  cases h with
  | gen items => exact findLoop_conforms ht repo cx _ items {} _ hg fun hq => ⟨rfl, hq⟩
  | fnRaise te e => exact conforms_send _ _ (by cases repo <;> rfl)
  | fnNone e =>
    refine one e _ rfl fun v hv => ?_
    cases List.mem_singleton.mp hv
    exact goodFind_int rfl ht.success0 nofun
  | fnJunk e => exact one e _ rfl raised
  | fnVal v e => exact one e _ rfl raised

/-- witness: a C-FIND handler that yields the general Warning 0x0107 and then one match -/
def c20FindWarning : Handler :=
  .gen [.yield (.pair (.int 0x0107) .none .success) {},
        .yield (.pair (.int 0xFF00) (.ds (some 1) false none true true) .success) {}]

/-- Violation: `_c_find_scp` sends the final-category Warning 0x0107 and then goes on with a
Pending and a Success response (statuses 0x0107, 0xFF00, 0x0000) — pynetdicom's own SCU stops
at the Warning. -/
theorem C20_shape_find_warning_neg :
    c20FindWarning.quiet = true ∧
    ((findScp (tableNamed "QR_FIND_SERVICE_CLASS_STATUS") 3 7 c20FindWarning).rsps.map (·.r.status)) =
      [0x0107, 0xFF00, 0x0000] ∧
    nonFinalCode false 0x0107 = false ∧
    ¬ Sh false (findScp (tableNamed "QR_FIND_SERVICE_CLASS_STATUS") 3 7 c20FindWarning).rsps := by
  -- the SCP is run once; the rest is read off its three responses
  have hr : (findScp (tableNamed "QR_FIND_SERVICE_CLASS_STATUS") 3 7 c20FindWarning).rsps =
      [⟨3, { status := 0x0107, msgIdResp := 7 }⟩,
       ⟨3, { status := 0xFF00, msgIdResp := 7, ident := Ident.data }⟩, ⟨3, { status := 0, msgIdResp := 7 }⟩] := by
    decide +kernel
  rw [hr]
  exact ⟨rfl, rfl, rfl, fun h => nomatch h [] _ _ rfl rfl⟩

/-- witness: a handler yielding None instead of (status, dataset) -/
def c20BadShape : Handler := .gen [.yield .junk {}]

/-- Violation: a yielded value that does not unpack into two raises out of `SCP()`: no response
at all, the exception reaches `Association._serve_request`, which aborts the association.
(Same statement for C-GET after the count and for the N-* services whose handler returns None.) -/
theorem C20_shape_badshape_neg :
    c20BadShape.quiet = true ∧
    findScp (tableNamed "QR_FIND_SERVICE_CLASS_STATUS") 3 7 c20BadShape = Out.crash ∧
    getScp (tableNamed "QR_GET_SERVICE_CLASS_STATUS") 3 7
      (.gen [.yield (.status (.int 2)) {}, .yield .junk {}]) = Out.crash ∧
    nScp .nGet (tableNamed "GENERAL_STATUS") 3 7 true (.fnNone {}) = Out.crash := by
  refine ⟨rfl, by decide +kernel, by decide +kernel, by decide +kernel⟩

/-- Relevant Patient SCP, every handler whose first result's status is not a Warning of the
table (and not an unknown Pending-looking code): one Pending + Success, or one final response. -/
theorem C20_shape_rp_partial {t : Table} (ht : StdTable t) (cx m : Nat) (h : Handler) (hg : GoodRpH t h) :
    Conforms false h.quiet (rpScp t cx m h) :=
  (rpScp_case t cx m h).conforms ht hg

def c20RpWarning : Handler := .gen [.yield (.pair (.int 0x0107) .none .success) {}]

/-- Violation: for a Warning status the Relevant Patient SCP sends nothing at all. -/
theorem C20_shape_rp_warning_neg :
    c20RpWarning.quiet = true ∧
    rpScp (tableNamed "RELEVANT_PATIENT_SERVICE_CLASS_STATUS") 3 7 c20RpWarning = Out.nil ∧
    ¬ Finished false (rpScp (tableNamed "RELEVANT_PATIENT_SERVICE_CLASS_STATUS") 3 7 c20RpWarning).rsps := by
  have hr : rpScp (tableNamed "RELEVANT_PATIENT_SERVICE_CLASS_STATUS") 3 7 c20RpWarning = Out.nil := by
    decide +kernel
  rw [hr]
  refine ⟨rfl, rfl, fun ⟨pre, f, h, _⟩ => ?_⟩
  cases pre <;> cases h

/-- `_get_scp`, every handler whose results (after the count) unpack and whose table-unknown
statuses are not Pending-looking: Pending* ++ [final], or Pending* after an abort/release. -/
theorem C20_shape_get_partial {t : Table} (ht : StdTable t) (cx m : Nat) (h : Handler)
    (hg : GoodRetrieveH t 0xC411 1 h) : Conforms false h.quiet (getScp t cx m h) :=
  (getScp_case t cx m h).conforms ht hg

theorem C20_shape_move_partial {t : Table} (ht : StdTable t) (cx m : Nat) (h : Handler)
    (hg : GoodRetrieveH t 0xC511 2 h) : Conforms false h.quiet (moveScp t cx m h) :=
  (moveScp_case t cx m h).conforms ht hg

/-- witness: a C-GET handler yielding the Pending code 0xFF01, which QR_GET's table lacks -/
def c20GetFF01 : Handler :=
  .gen [.yield (.status (.int 2)) {},
        .yield (.pair (.int 0xFF01) (.ds (some 1) false none true true) .success) {}]

/-- Violation: a Pending-category status unknown to the service's table is sent as is and
`SCP()` returns: the last (only) response is non-final, no final response follows.  Same for
a C-STORE handler returning 0xFF00. -/
theorem C20_shape_unknown_pending_neg :
    c20GetFF01.quiet = true ∧
    ((getScp (tableNamed "QR_GET_SERVICE_CLASS_STATUS") 3 7 c20GetFF01).rsps.map (·.r.status)) = [0xFF01] ∧
    ¬ Finished false (getScp (tableNamed "QR_GET_SERVICE_CLASS_STATUS") 3 7 c20GetFF01).rsps ∧
    ((statusOnlyScp .store 0xC211 3 7 (.fnVal (.status (.int 0xFF00)) {})).rsps.map (·.r.status)) = [0xFF00] := by
  have hr : (getScp (tableNamed "QR_GET_SERVICE_CLASS_STATUS") 3 7 c20GetFF01).rsps =
      [⟨3, { status := 0xFF01, msgIdResp := 7 }⟩] := by decide +kernel
  rw [hr]
  refine ⟨rfl, rfl, fun ⟨pre, f, h, hf⟩ => ?_, by decide +kernel⟩
  cases pre with
  | nil => cases h; cases hf
  | cons a l => cases l <;> cases h

/-- C-ECHO: one final response unless the handler supplied a Pending-looking status. -/
theorem C20_shape_echo_partial (cx m : Nat) (h : Handler) (hgen : ∀ items, h ≠ .gen items)
    (hg : GoodStatusH h) : Conforms false h.quiet (echoScp cx m h) := by
  refine (echoScp_case cx m h).conforms hgen rfl fun hne => conforms_send _ _ ?_
  rcases echoRsp_eq m (asStatus h.call.1) with he | he <;> rw [he]
  · rw [validateStatus_status]
    exact (nonFinalCode_false _).trans (hg.resolve_left hne)
  · rfl

/-- C-STORE (exception status 0xC211) and N-DELETE (0x0110). -/
theorem C20_shape_store_partial (cx m : Nat) (h : Handler) (hgen : ∀ items, h ≠ .gen items)
    (hg : GoodStatusH h) : Conforms false h.quiet (statusOnlyScp .store 0xC211 cx m h) :=
  statusOnlyScp_conforms .store 0xC211 (by decide) cx m h hgen hg

theorem C20_shape_ndelete_partial (cx m : Nat) (h : Handler) (hgen : ∀ items, h ≠ .gen items)
    (hg : GoodStatusH h) : Conforms false h.quiet (statusOnlyScp .nDelete 0x0110 cx m h) :=
  statusOnlyScp_conforms .nDelete 0x0110 (by decide) cx m h hgen hg

/-- N-ACTION, N-CREATE, N-EVENT-REPORT, N-GET, N-SET — any table, any request. -/
theorem C20_shape_n_partial (p : Prim) (t : Table) (cx m : Nat) (inst : Bool) (h : Handler)
    (hgen : ∀ items, h ≠ .gen items) (hg : GoodPairH h) : Conforms false h.quiet (nScp p t cx m inst h) := by
  refine (nScp_case p t cx m inst h).conforms hgen rfl fun hne => ?_
  obtain ⟨s, d, o, hp, hpend⟩ := hg.resolve_left hne
  have hb := nBody_spec p t cx m inst h.call.1
  generalize nBody p t cx m inst h.call.1 = out at hb ⊢
  cases hb with
  | crash hn => rw [hp] at hn; cases hn
  | sent s1 d1 o1 x hp1 _ hs =>
    rw [hp] at hp1; cases hp1
    refine conforms_send _ _ ?_
    rcases hs with hs | hs <;> rw [hs]
    · exact (nonFinalCode_false _).trans hpend
    · rfl

/-- `_c_find_scp`: nothing follows a final response — under the hypothesis of the shape theorem
(the witness of `C20_shape_find_warning_neg` is the counterexample without it). -/
theorem C20_nothing_after_final_find_partial {t : Table} (ht : FindTable t) (repo : Bool) (cx m : Nat)
    (h : Handler) (hg : GoodFindH t repo h) :
    ∀ pre f post, (findScp t cx m h).rsps = pre ++ f :: post → nonFinal repo f = false → post = [] :=
  (C20_shape_find_partial ht repo cx m h hg).2.1

/-- C-GET: for EVERY handler behaviour (no hypothesis) nothing follows a final response. -/
theorem C20_nothing_after_final_get {t : Table} (ht : StdTable t) (cx m : Nat) (h : Handler) :
    ∀ pre f post, (getScp t cx m h).rsps = pre ++ f :: post → nonFinal false f = false → post = [] :=
  (getScp_case t cx m h).sh ht

theorem C20_nothing_after_final_move {t : Table} (ht : StdTable t) (cx m : Nat) (h : Handler) :
    ∀ pre f post, (moveScp t cx m h).rsps = pre ++ f :: post → nonFinal false f = false → post = [] :=
  (moveScp_case t cx m h).sh ht

theorem C20_nothing_after_final_rp {t : Table} (ht : StdTable t) (cx m : Nat) (h : Handler) :
    ∀ pre f post, (rpScp t cx m h).rsps = pre ++ f :: post → nonFinal false f = false → post = [] :=
  (rpScp_case t cx m h).sh ht

/-- the single-response services send at most one response, for every handler behaviour -/
theorem C20_nothing_after_final_single (p : Prim) (t : Table) (exc : Int) (cx m : Nat) (inst : Bool) (h : Handler) :
    (echoScp cx m h).rsps.length ≤ 1 ∧ (statusOnlyScp p exc cx m h).rsps.length ≤ 1 ∧
    (nScp p t cx m inst h).rsps.length ≤ 1 := by
  refine ⟨(echoScp_case cx m h).length_le (length_send _ _),
    (statusOnlyScp_case p exc cx m h).length_le (length_send _ _), (nScp_case p t cx m inst h).length_le ?_⟩
  have hb := nBody_spec p t cx m inst h.call.1
  generalize nBody p t cx m inst h.call.1 = out at hb ⊢
  cases hb with
  | crash => exact Nat.zero_le _
  | sent => exact length_send _ _

/-- Every response of every SCP carries the request's context id and message id — for every
handler behaviour none of whose status Datasets contains a MessageIDBeingRespondedTo element. -/
theorem C20_ids_partial (t : Table) (cx m : Nat) (h : Handler) (hn : h.noMsgId = true) :
    IdsOK cx m (findScp t cx m h) ∧ IdsOK cx m (rpScp t cx m h) ∧ IdsOK cx m (getScp t cx m h) ∧
    IdsOK cx m (moveScp t cx m h) ∧ IdsOK cx m (echoScp cx m h) ∧
    (∀ p exc, IdsOK cx m (statusOnlyScp p exc cx m h)) ∧
    (∀ p inst, IdsOK cx m (nScp p t cx m inst h)) := by
  refine ⟨?find, (rpScp_case t cx m h).idsOK hn, (getScp_case t cx m h).idsOK hn, (moveScp_case t cx m h).idsOK hn,
    ?echo, fun p exc => ?_, fun p inst => ?n⟩
  case find =>
    have one : ∀ (it : Item) (st : St), it.noMsgId = true →
        IdsOK cx m (findLoop t cx [it] st { msgIdResp := m }) :=
      fun it st hit => findLoop_idsOK t cx m _ st _ rfl (stepVals_noMsgId _ (by simp [hit]))
    cases h with
    | gen items => exact findLoop_idsOK t cx m items _ _ rfl (stepVals_noMsgId items hn)
    | fnRaise te e => exact IdsOK_send rfl
    | fnNone e => exact IdsOK_guard (one _ _ rfl)
    | fnJunk e => exact IdsOK_guard (one _ _ rfl)
    | fnVal v e => exact IdsOK_guard (one _ _ rfl)
  case echo =>
    refine (echoScp_case cx m h).idsOK (IdsOK_send ?_)
    rcases echoRsp_eq m (asStatus h.call.1) with he | he <;> rw [he]
    exact validateStatus_msgId _ _ _ (call_noMsgId h hn)
  case n =>
    refine (nScp_case p t cx m inst h).idsOK ?_
    have hb := nBody_spec p t cx m inst h.call.1
    generalize nBody p t cx m inst h.call.1 = out at hb ⊢
    cases hb with
    | crash => exact IdsOK_crash _ _
    | sent s d o x hp hm => exact IdsOK_send (by rw [hm, validateStatus_msgId _ _ _ (fnPair_noMsgId h hn hp)])
  · exact (statusOnlyScp_case p exc cx m h).idsOK (IdsOK_send (validateStatus_msgId _ _ _ (call_noMsgId h hn)))

/-- witness: a C-STORE handler returning Dataset(Status=0x0000, MessageIDBeingRespondedTo=9) -/
def c20MsgId : Handler := .fnVal (.status (.ds [(.msgIdResp, 9), (.status, 0)])) {}

/-- Violation: `validate_status` copies every element whose keyword is an attribute of the
response primitive, so the handler's status Dataset overwrites MessageIDBeingRespondedTo: the
response to request 7 goes out with message id 9. -/
theorem C20_ids_neg :
    (statusOnlyScp .store 0xC211 3 7 c20MsgId).rsps.map (fun s => (s.cx, s.r.msgIdResp, s.r.status)) = [(3, 9, 0)] ∧
    ¬ IdsOK 3 7 (statusOnlyScp .store 0xC211 3 7 c20MsgId) := by
  have hr : (statusOnlyScp .store 0xC211 3 7 c20MsgId).rsps = [⟨3, { status := 0, msgIdResp := 9 }⟩] := by
    decide +kernel
  refine ⟨by rw [hr]; rfl, fun h => ?_⟩
  exact absurd (h _ (hr ▸ List.mem_singleton_self _)).2 (by decide)

example : FindTable (tableNamed "QR_FIND_SERVICE_CLASS_STATUS") := findTable_check _ (by decide +kernel)
example : FindTable (tableNamed "SUBSTANCE_ADMINISTRATION_SERVICE_CLASS_STATUS") :=
  findTable_check _ (by decide +kernel)
example : FindTable (tableNamed "UNIFIED_PROCEDURE_STEP_SERVICE_CLASS_STATUS") :=
  findTable_check _ (by decide +kernel)
example : StdTable (tableNamed "RELEVANT_PATIENT_SERVICE_CLASS_STATUS") := stdTable_named _ (by decide +kernel)
example : StdTable (tableNamed "QR_GET_SERVICE_CLASS_STATUS") := stdTable_named _ (by decide +kernel)
example : StdTable (tableNamed "QR_MOVE_SERVICE_CLASS_STATUS") := stdTable_named _ (by decide +kernel)

/-- a well-behaved C-FIND handler: two matches then Success -/
def c20GoodFind : Handler :=
  .gen [.yield (.pair (.int 0xFF00) (.ds (some 1) false none true true) .success) {},
        .yield (.pair (.int 0xFF00) (.ds (some 2) false none true true) .success) {},
        .yield (.pair (.int 0x0000) .none .success) {}]

example : GoodFindH (tableNamed "QR_FIND_SERVICE_CLASS_STATUS") false c20GoodFind := by
  intro v hv
  simp only [stepVals, List.mem_cons, List.not_mem_nil, or_false] at hv
  rcases hv with rfl | rfl | rfl
  · exact goodFind_int (cat := .pending) rfl (by decide +kernel) nofun
  · exact goodFind_int (cat := .pending) rfl (by decide +kernel) nofun
  · exact goodFind_int (cat := .success) rfl (by decide +kernel) nofun
example : c20GoodFind.quiet = true ∧ c20GoodFind.noMsgId = true := by decide
example : ((findScp (tableNamed "QR_FIND_SERVICE_CLASS_STATUS") 3 7 c20GoodFind).rsps.map (·.r.status)) =
    [0xFF00, 0xFF00, 0x0000] := by decide +kernel
/-- the Repository Query response-limit warning is admitted before the final response -/
example : GoodFind (tableNamed "QR_FIND_SERVICE_CLASS_STATUS") true
    (some (.pair (.int 0xB001) .none .success)) := ⟨_, _, _, rfl, by decide +kernel, by decide +kernel⟩
example : GoodStatusH (.fnVal (.status (.int 0xB000)) {}) := Or.inr (by decide)
example : GoodPairH (.fnVal (.pair (.int 0) (.ds none false none true true) .success) {}) :=
  Or.inr ⟨_, _, _, rfl, by decide⟩

end PynetVerif
