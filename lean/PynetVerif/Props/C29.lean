import PynetVerif.Lemmas.Match
import PynetVerif.Gen.Qr
/-!
C29 — qrscp returns exactly the entities the PS3.4 matching rules select.

`Spec.Match` is PS3.4 C.2.2.2 / C.4.1.3.1.1 written from the standard,
`QrMatch` is the model of `apps/qrscp/db.py` on a modelled SQLite.  Proved
here: sanity of the spec (the executable wild-card matcher is the relational
definition; literals; '*'), that the tables of the code are those of the
model and of PS3.4, that the code's dispatch to a matching kind and its
identifier check are the standard's, and — because the code does NOT satisfy
the property — concrete witnesses of each way it fails (`…_neg`) next to the
theorems on the fragment where it does (`…_partial`).

SQLite is modelled, not verified: the property itself is decided by the
differential run of `harness/props/c29.py` against `Spec.Match`.
-/
namespace PynetVerif
open Spec.Match C29

theorem C29_wild_iff_relational (p s : Str) : wild p s = true ↔ Wild p s :=
  ⟨wild_sound p s, wild_complete⟩

/-- a pattern without '*' and '?' matches exactly itself (single value = wild card without wild cards) -/
theorem C29_wild_literal (p s : Str) (h : ∀ c ∈ p, c ≠ '*' ∧ c ≠ '?') : wild p s = true ↔ p = s := by
  induction p generalizing s with
  | nil => cases s <;> simp [wild]
  | cons c p ih =>
    have hc := h c List.mem_cons_self
    have ih := fun s' => ih s' fun x hx => h x (List.mem_cons_of_mem _ hx)
    cases s with
    | nil => simp [wild, hc.1]
    | cons d s' => simp [wild, hc.1, hc.2, ih s']

theorem C29_wild_star_matches_all (s : Str) : wild ['*'] s = true := by
  simp only [wild, if_true]
  exact anySuffix_iff.mpr ⟨[], List.nil_suffix, rfl⟩

theorem C29_tables :
    Gen.Qr.attributes.map (·.1) = QrMatch.keywords ∧
    Gen.Qr.attributes.map (·.2.2.2) = QrMatch.vrs ∧
    Gen.Qr.attributes.map (fun a => a.2.2.1 == "R") = QrMatch.isR ∧
    Gen.Qr.unmatchedKeywords = [] ∧
    Gen.Qr.patientRoot = QrMatch.levelsOf .patientRoot ∧
    Gen.Qr.studyRoot = QrMatch.levelsOf .studyRoot ∧
    Gen.Qr.textVR = QrMatch.textVR ∧
    Gen.Qr.dateTimeVRLists = [["DA", "DT", "TM"], ["DA", "DT", "TM"]] ∧
    Gen.Qr.searchCalls =
      ["_search_single_value", "_search_universal", "_search_uid_list", "_search_wildcard", "_search_range"] ∧
    Gen.Qr.wildcardReplace = [("*", "%"), ("?", "_")] ∧ Gen.Qr.wildcardCompare = ["like"] :=
  ⟨rfl, rfl, rfl, rfl, rfl, rfl, rfl, rfl, rfl, rfl, rfl⟩

/-- level, key type (U/R) and VR class of every supported attribute in the code's
`_ATTRIBUTES` (with pydicom's dictionary VR) are those of PS3.4 Tables C.6-1..C.6-4;
the level tables of both information models list the PS3.4 levels in order, each
with its unique key first and exactly the attributes PS3.4 puts at that level. -/
theorem C29_tables_match_ps34 :
    Gen.Qr.attributes.map (fun a => (parseLevel a.2.1, a.2.2.1 == "U", classOf a.2.2.2)) =
      attrs.map (fun a => (some a.level, a.unique, a.vr)) ∧
    (∀ r ∈ [(QrMatch.Root.patientRoot, Root.patientRoot), (QrMatch.Root.studyRoot, Root.studyRoot)],
      (QrMatch.levelsOf r.1).map (fun lk => (parseLevel lk.1, lk.2.head?)) =
        (levelsOf r.2).map (fun l => (some l, some (uniqueKeyOf l))) ∧
      (QrMatch.levelsOf r.1).all (fun lk => (List.range 12).all (fun c =>
        lk.2.contains c == (match attrs[c]? with
          | some a => some (levelIn r.2 a) == parseLevel lk.1
          | none => false))) = true) := by
  decide +kernel

/-- For every VR (other than SQ) and every key that is zero-length or has one
value, `build_query` picks the kind of matching PS3.4 prescribes — for ALL
values.  (Excluded hypothesis: keys with several values, see the `_neg`.) -/
theorem C29_dispatch_partial (vr : String) (key : Key) (hsq : vr ≠ "SQ") (h1 : key.length ≤ 1) :
    kindToSpec (QrMatch.buildKind vr (seenDirect key)) = kindOf (classOf vr) key := by
  match key, h1 with
  | [], _ => simp [seenDirect, QrMatch.buildKind, kindOf, kindToSpec]
  | [v], _ => exact dispatch_one vr v hsq
  | _ :: _ :: _, h => simp at h

/-- List of UID matching is never reached: a UI key with two values is sent to
single-value matching, whose SQL cannot bind a MultiValue; the query raises
(C-FIND answers 0xC320) where PS3.4 C.2.2.2.2 selects the listed entities. -/
theorem C29_dispatch_uidlist_neg :
    ∃ key : Key, kindOf (classOf "UI") key = .uidList ∧
      QrMatch.buildKind "UI" (seenDirect key) = .single ∧
      QrMatch.buildFilter "UI" (seenDirect key) = .error ∧
      matchKey false (classOf "UI") key (some "1.1".toList) = true :=
  ⟨["1.1".toList, "1.2".toList], by decide⟩

/-- Universal matching is lost on the wire: the zero-length key arrives as `''`,
is sent to single-value matching and compared with `== ''`; nothing with a
non-empty value matches, where PS3.4 C.2.2.2.3 matches everything. -/
theorem C29_universal_wire_neg :
    ∃ (vr : String) (v : Option Str), vr ≠ "SQ" ∧
      kindOf (classOf vr) [] = .universal ∧ matchKey false (classOf vr) [] v = true ∧
      QrMatch.buildKind vr (seenWire (classOf vr) []) = .single ∧
      QrMatch.evalFilter (QrMatch.buildFilter vr (seenWire (classOf vr) [])) v = false :=
  ⟨"LO", some "a".toList, by decide⟩

/-- On patterns free of '_' and '%', and when no pattern character equals a
different value character up to ASCII case (e.g. neither contains ASCII
letters), `LIKE` on the translated pattern IS PS3.4 wild-card matching — for
all patterns and values. -/
theorem C29_wildcard_partial (p v : Str)
    (hp : ∀ c ∈ p, c ≠ '_' ∧ c ≠ '%')
    (hc : ∀ c ∈ p, ∀ d ∈ v, QrMatch.lowerAscii c = QrMatch.lowerAscii d → c = d) :
    QrMatch.like (QrMatch.toLike p) v = wild p v := by
  induction p generalizing v with
  | nil => simp [QrMatch.toLike, QrMatch.like, Spec.Match.wild]
  | cons c p ihp =>
    have hpc := hp c (List.mem_cons_self)
    have hp' : ∀ x ∈ p, x ≠ '_' ∧ x ≠ '%' := fun x hx => hp x (List.mem_cons_of_mem _ hx)
    have ih := fun (t : Str) (ht : ∀ d ∈ t, d ∈ v) => ihp t hp'
      (fun x hx d hd => hc x (List.mem_cons_of_mem _ hx) d (ht d hd))
    have e : QrMatch.toLike (c :: p) = (if c = '*' then '%' else if c = '?' then '_' else c) :: QrMatch.toLike p := rfl
    rw [e]
    by_cases h1 : c = '*'
    · subst h1
      simp only [if_true, QrMatch.like, Spec.Match.wild]
      exact QrMatch.anySuffix_congr (f := QrMatch.like (QrMatch.toLike p)) (g := Spec.Match.wild p) v ih
    · by_cases h2 : c = '?'
      · subst h2
        have n1 : ('_' : Char) ≠ '%' := by decide
        simp only [h1, if_false, if_true, QrMatch.like, n1, Spec.Match.wild]
        cases v with
        | nil => rfl
        | cons d s' =>
          have := ih s' (fun x hx => List.mem_cons_of_mem _ hx)
          simp [this]
      · simp only [h1, h2, if_false, QrMatch.like, hpc.2, Spec.Match.wild]
        cases v with
        | nil => rfl
        | cons d s' =>
          have := ih s' (fun x hx => List.mem_cons_of_mem _ hx)
          have hcd : (QrMatch.lowerAscii c == QrMatch.lowerAscii d) = (c == d) := by
            by_cases hh : c = d
            · subst hh; simp
            · have : QrMatch.lowerAscii c ≠ QrMatch.lowerAscii d := fun e =>
                hh (hc c (List.mem_cons_self) d (List.mem_cons_self) e)
              rw [beq_eq_false_iff_ne.mpr this, beq_eq_false_iff_ne.mpr hh]
          have hu : (c == '_') = false := by simpa using hpc.1
          have hq : (c == '?') = false := by simpa using h2
          simp [this, hcd, hu, hq]

/-- '_' in a wild-card pattern is a literal in PS3.4 but a one-character wild card in LIKE -/
theorem C29_like_underscore_neg :
    ∃ p v : Str, hasWild p = true ∧ QrMatch.like (QrMatch.toLike p) v = true ∧ wild p v = false :=
  ⟨"a_*".toList, "aXb".toList, by decide⟩

/-- '%' in a wild-card pattern is a literal in PS3.4 but a wild card in LIKE -/
theorem C29_like_percent_neg :
    ∃ p v : Str, hasWild p = true ∧ QrMatch.like (QrMatch.toLike p) v = true ∧ wild p v = false :=
  ⟨"%?".toList, "aXb".toList, by decide⟩

/-- LIKE ignores ASCII case; PS3.4 wild-card matching is case-sensitive (except, optionally, for PN) -/
theorem C29_like_casefold_neg :
    ∃ p v : Str, hasWild p = true ∧ (∀ c ∈ p, c ≠ '_' ∧ c ≠ '%') ∧
      QrMatch.like (QrMatch.toLike p) v = true ∧ wild p v = false :=
  ⟨"AX*".toList, "aXb".toList, by decide⟩

/-- For date/time values of one fixed all-digit format, SQLite's string order
is the numeric (chronological) order PS3.4 range matching refers to. -/
theorem C29_range_order_partial (a b : Str) (hl : a.length = b.length)
    (ha : a.all isDigit = true) (hb : b.all isDigit = true) :
    QrMatch.lexLe a b = dtLe a b := by
  rw [QrMatch.lexLe_eq_numeric a b hl ha hb]
  simp [dtLe, hl, ha, hb]

/-- Without the fixed format the two orders differ ("9" vs "10"). -/
theorem C29_range_order_neg :
    ∃ a b : Str, a.all isDigit = true ∧ b.all isDigit = true ∧
      QrMatch.lexLe a b = false ∧ Nat.ble (valDigits a) (valDigits b) = true :=
  ⟨"9".toList, "10".toList, by decide⟩

/-- A range key "a-b", "a-" or "-b" on a DA/TM/DT attribute whose bounds and
stored value are all-digit strings of one length: the SQL condition the code
builds (`>=`/`<=` on strings) holds exactly when PS3.4 range matching does. -/
theorem C29_range_key_partial (vr : String) (hvr : vr ∈ ["DA", "TM", "DT"]) (a b x : Str)
    (ha : a = [] ∨ (a.length = x.length ∧ a.all isDigit = true))
    (hb : b = [] ∨ (b.length = x.length ∧ b.all isDigit = true))
    (hx : x.all isDigit = true) (hab : ¬(a = [] ∧ b = [])) :
    QrMatch.evalFilter (QrMatch.buildFilter vr (.str (a ++ '-' :: b))) (some x) =
      matchKey false (classOf vr) [a ++ '-' :: b] (some x) := by
  -- the empty string is all digits too
  have na : '-' ∉ a := digits_no_dash (ha.elim (· ▸ rfl) (·.2))
  have nb : '-' ∉ b := digits_no_dash (hb.elim (· ▸ rfl) (·.2))
  have hcl : classOf vr = .dateTime := by
    have := (vr_tests vr).2.1
    rw [List.contains_iff_mem.mpr hvr] at this
    simpa using this.symm
  have hsq : vr ≠ "SQ" := by rintro rfl; cases hcl
  have hc : (a ++ '-' :: b).contains '-' = true := by simp
  -- wherever a bound is given, string order is the order of `dtLe`; an absent lower bound is `[]`,
  -- the least string
  have ea : (a.isEmpty || dtLe a x) = QrMatch.lexLe a x := by
    cases a with
    | nil => simp [QrMatch.lexLe]
    | cons c as =>
      have h := ha.resolve_left (by simp)
      rw [C29_range_order_partial _ x h.1 h.2 hx]; rfl
  have eb : (b.isEmpty || dtLe x b) = (b.isEmpty || QrMatch.lexLe x b) := by
    rcases hb with rfl | h
    · rfl
    · rw [C29_range_order_partial x b h.1.symm hx h.2]
  rw [buildFilter_str vr _ hsq]
  unfold matchKey
  simp only [hcl, kindOf, hc, if_true, splitDashes_append a b na nb, rangeMatch, splitDash_append a b na nb,
    ea, eb]
  cases a <;> cases b <;> simp_all [QrMatch.evalFilter]

/-- For every VR that is not a date/time VR, every zero-length or one-valued
key given to `search()` directly, the SQL condition the code builds does not
raise and, for every stored value (or NULL), holds exactly when PS3.4 says the key matches —
provided a wild-card pattern has no '_'/'%' and case folding cannot identify
different characters. -/
theorem C29_key_partial (vr : String) (key : Key) (hsq : vr ≠ "SQ")
    (h1 : key.length ≤ 1) (hdt : classOf vr ≠ .dateTime) :
    QrMatch.buildFilter vr (seenDirect key) ≠ .error ∧
    ∀ v : Option Str, (∀ k ∈ key, hasWild k = true →
      (∀ c ∈ k, c ≠ '_' ∧ c ≠ '%') ∧
      (∀ x, v = some x → ∀ c ∈ k, ∀ d ∈ x, QrMatch.lowerAscii c = QrMatch.lowerAscii d → c = d)) →
    QrMatch.evalFilter (QrMatch.buildFilter vr (seenDirect key)) v = matchKey false (classOf vr) key v := by
  match key, h1 with
  | [], _ => simp [seenDirect, QrMatch.buildFilter, QrMatch.buildKind, QrMatch.evalFilter, matchKey, kindOf]
  | _ :: _ :: _, h => simp at h
  | [k], _ =>
    rw [seenDirect, buildFilter_str vr k hsq]
    unfold matchKey
    rcases kindOf_one (classOf vr) k with h | ⟨h, hwk⟩ | ⟨-, h⟩
    · rw [h]
      exact ⟨by simp, fun v _ => by cases v <;> simp [QrMatch.evalFilter]⟩
    · rw [h]
      refine ⟨by simp, fun v hw => ?_⟩
      obtain ⟨hp, hc⟩ := hw k (by simp) hwk
      cases v with
      | none => rfl
      | some x => simpa [QrMatch.evalFilter] using C29_wildcard_partial k x hp (hc x rfl)
    · exact absurd h hdt

/-- `_check_identifier` raises InvalidIdentifier exactly when the level
hierarchy is invalid in the sense of PS3.4 C.4.1.3.1.1 — for both information
models, every Query/Retrieve Level string and every non-empty set of supported
keys (a key-less identifier is outside the property's quantifier). -/
theorem C29_check_identifier (root : Root) (q : String) (mkeys : List (Nat × QrMatch.Val))
    (skeys : List (Nat × Key)) (hcols : mkeys.map (·.1) = skeys.map (·.1)) (hne : mkeys ≠ []) :
    QrMatch.checkIdentifier (mroot root) { level := some q, keys := mkeys } =
      validIdentifier root { level := parseLevel q, keys := skeys } := by
  have hhas : QrMatch.Ident.has { level := some q, keys := mkeys } =
      Ident.has { level := parseLevel q, keys := skeys } := by
    funext c
    have h := congrArg (List.any · (· == c)) hcols
    simpa [QrMatch.Ident.has, Ident.has, List.any_map, Function.comp_def] using h
  have hemp : mkeys.isEmpty = false := by cases mkeys <;> simp_all
  have := checkLevels_eq root q (Ident.has { level := parseLevel q, keys := skeys })
  simp only [QrMatch.checkIdentifier, validIdentifier, hemp, hhas, Bool.not_false, Bool.and_true] at this ⊢
  rw [this]
  cases parseLevel q <;> rfl

theorem C29_check_identifier_no_level (root : Root) (mkeys : List (Nat × QrMatch.Val)) (skeys : List (Nat × Key)) :
    QrMatch.checkIdentifier (mroot root) { level := none, keys := mkeys } = false ∧
    validIdentifier root { level := none, keys := skeys } = false := by
  simp [QrMatch.checkIdentifier, validIdentifier]

/-- Composition: if no key's SQL condition raises and each key's condition
agrees with the PS3.4 matcher on the stored values, then `search()` (identifier
check, hierarchical accumulation of conditions, row filter) returns
InvalidIdentifier exactly when PS3.4 calls the identifier invalid and otherwise
exactly the instances of the entities PS3.4 selects — for both information
models, every level string, every key set without duplicate columns, every
database. -/
theorem C29_search_compose (root : Root) (q : String) (skeys : List (Nat × Key)) (rows : List Row)
    (hne : skeys ≠ []) (hnodup : (skeys.map (·.1)).Nodup) (hcol : ∀ k ∈ skeys, k.1 < 12)
    (herr : ∀ k ∈ skeys, QrMatch.buildFilter ((QrMatch.vrs[k.1]?).getD "UN") (seenDirect k.2) ≠ .error)
    (hkey : ∀ k ∈ skeys, ∀ r ∈ rows, ∀ a, attrs[k.1]? = some a →
      QrMatch.evalFilter (QrMatch.buildFilter ((QrMatch.vrs[k.1]?).getD "UN") (seenDirect k.2)) (QrMatch.Row.col r k.1)
        = matchKey false a.vr k.2 (Row.col r k.1)) :
    QrMatch.search (mroot root) false
        { level := some q, keys := skeys.map (fun k => (k.1, seenDirect k.2)) } rows =
      (match selectRetrieve false root { level := parseLevel q, keys := skeys } rows with
       | none => .invalid
       | some is => .rows is) := by
  generalize hmk : skeys.map (fun k => (k.1, seenDirect k.2)) = mkeys
  have hcols : mkeys.map (·.1) = skeys.map (·.1) := by rw [← hmk]; simp [Function.comp_def]
  have hchk := C29_check_identifier root q mkeys skeys hcols (by rw [← hmk]; simpa using hne)
  unfold selectRetrieve
  cases hv : validIdentifier root { level := parseLevel q, keys := skeys } with
  | false => simp [QrMatch.search, hchk, hv]
  | true =>
    -- the level is a level of the model, and no key lies below it
    obtain ⟨L, hq, hL, hbelow⟩ : ∃ L, parseLevel q = some L ∧ (levelsOf root).contains L = true ∧
        (columnsBelow root L).all (fun c => !Ident.has { level := parseLevel q, keys := skeys } c) = true := by
      unfold validIdentifier at hv
      cases hp : parseLevel q with
      | none => simp [hp] at hv
      | some L =>
        simp only [hp, Bool.and_eq_true] at hv
        exact ⟨L, rfl, hv.1.1, by simpa [hp] using hv.2⟩
    have hin : ∀ k ∈ mkeys, k.1 ∈ QrMatch.columnsUpTo q (QrMatch.levelsOf (mroot root)) := by
      intro k hk
      rw [← hmk] at hk
      obtain ⟨k', hk', rfl⟩ := List.mem_map.mp hk
      refine (covered root q L hq hL k'.1 (hcol k' hk')).resolve_right fun h => ?_
      have hhas : Ident.has { level := parseLevel q, keys := skeys } k'.1 = true := by
        simp only [Ident.has, List.any_eq_true]; exact ⟨k', hk', by simp⟩
      simpa [hhas] using List.all_eq_true.mp hbelow k'.1 h
    rw [search_of_valid _ q mkeys rows (hchk.trans hv) (hcols ▸ hnodup) hin, if_neg, if_pos rfl]
    · congr 1
      unfold matchingRows
      refine filterMap_congr_mem _ fun ⟨i, r⟩ hx => ?_
      have hr : r ∈ rows := (List.of_mem_zip hx).2
      have : (mkeys.all fun k => QrMatch.evalFilter (QrMatch.buildFilter (QrMatch.vrs[k.fst]?.getD "UN") k.snd)
          (QrMatch.Row.col r k.fst)) = rowMatches false { level := parseLevel q, keys := skeys } r := by
        rw [← hmk, List.all_map]
        refine all_congr_mem fun k hk => ?_
        obtain ⟨a, ha⟩ := attrs_some k.1 (hcol k hk)
        simp only [Function.comp_def, ha, hkey k hk r hr a ha]
      simp only [this]
    · rw [← hmk, Bool.not_eq_true, List.any_eq_false]
      intro k hk
      obtain ⟨k', hk', rfl⟩ := List.mem_map.mp hk
      simpa using herr k' hk'

/-- The fragment on which the real strategy is right, with concrete
hypotheses: keys with at most one value (no UID lists), no date/time keys
(see `C29_range_key_partial` for those), wild-card patterns free of '_' and '%'
whose characters cannot be identified with different stored characters by
ASCII case folding.  There `search()` = PS3.4 (`selectRetrieve`: all instances
of the matching entities; C-FIND's one-response-per-entity is refuted by
`C29_find_per_instance_neg`). -/
theorem C29_search_partial (root : Root) (q : String) (skeys : List (Nat × Key)) (rows : List Row)
    (hne : skeys ≠ []) (hnodup : (skeys.map (·.1)).Nodup) (hcol : ∀ k ∈ skeys, k.1 < 12)
    (h1 : ∀ k ∈ skeys, k.2.length ≤ 1)
    (hdt : ∀ k ∈ skeys, k.1 ≠ 3 ∧ k.1 ≠ 4)
    (hw : ∀ k ∈ skeys, ∀ p ∈ k.2, hasWild p = true →
      (∀ c ∈ p, c ≠ '_' ∧ c ≠ '%') ∧
      (∀ r ∈ rows, ∀ x, Row.col r k.1 = some x →
        ∀ c ∈ p, ∀ d ∈ x, QrMatch.lowerAscii c = QrMatch.lowerAscii d → c = d)) :
    QrMatch.search (mroot root) false
        { level := some q, keys := skeys.map (fun k => (k.1, seenDirect k.2)) } rows =
      (match selectRetrieve false root { level := parseLevel q, keys := skeys } rows with
       | none => .invalid
       | some is => .rows is) := by
  apply C29_search_compose root q skeys rows hne hnodup hcol
  · intro k hk
    obtain ⟨hsq, hd, -⟩ := vr_class k.1 (hcol k hk)
    exact (C29_key_partial _ _ hsq (h1 k hk) fun e => (hd e).elim (hdt k hk).1 (hdt k hk).2).1
  · intro k hk r hr a ha
    obtain ⟨hsq, hd, hcl⟩ := vr_class k.1 (hcol k hk)
    rw [← hcl a ha]
    refine (C29_key_partial _ _ hsq (h1 k hk) fun e => (hd e).elim (hdt k hk).1 (hdt k hk).2).2 _
      fun p hp hwp => ?_
    obtain ⟨g1, g2⟩ := hw k hk p hp hwp
    exact ⟨g1, fun x hx => g2 r hr x hx⟩

def rowA : Row := [some "aXb".toList, some "Doe".toList, some "1.1".toList, none, none, none, none,
  some "1.1.1".toList, none, none, some "1.1.1.1".toList, none]
def rowB : Row := [some "aXb".toList, some "Doe".toList, some "1.1".toList, none, none, none, none,
  some "1.1.1".toList, none, none, some "1.1.1.2".toList, none]

/-- One patient with two instances: `search()` returns two rows (and `handle_find`
yields one pending response per row), PS3.4 selects one patient. -/
theorem C29_find_per_instance_neg :
    QrMatch.search .patientRoot false { level := some "PATIENT", keys := [(0, .str "aXb".toList)] } [rowA, rowB]
      = .rows [0, 1] ∧
    selectFind false .patientRoot { level := some .patient, keys := [(0, ["aXb".toList])] } [rowA, rowB]
      = some [0] ∧
    selectRetrieve false .patientRoot { level := some .patient, keys := [(0, ["aXb".toList])] } [rowA, rowB]
      = some [0, 1] := by
  decide +kernel

example : (∀ c ∈ "1?3*".toList, c ≠ '_' ∧ c ≠ '%') ∧
    (∀ c ∈ "1?3*".toList, ∀ d ∈ "1234".toList, QrMatch.lowerAscii c = QrMatch.lowerAscii d → c = d) ∧
    wild "1?3*".toList "1234".toList = true := by decide +kernel
example : "20200101".toList.length = "20191231".toList.length ∧ "20200101".toList.all isDigit = true ∧
    dtLe "20191231".toList "20200101".toList = true := by decide +kernel
example : validIdentifier .studyRoot { level := parseLevel "SERIES", keys := [(2, ["1.1".toList]), (8, ["C*".toList])] } = true ∧
    validIdentifier .studyRoot { level := parseLevel "PATIENT", keys := [(0, ["a".toList])] } = false := by decide +kernel
example : matchKey false .dateTime ["20200101-20200131".toList] (some "20200115".toList) = true ∧
    matchKey false .dateTime ["-20200101".toList] (some "20200115".toList) = false ∧
    matchKey false .uid ["1.1".toList, "1.2".toList] (some "1.2".toList) = true ∧
    matchKey true .pn ["doe*".toList] (some "DOE^J".toList) = true ∧
    matchKey false .pn ["doe*".toList] (some "DOE^J".toList) = false := by decide +kernel

-- the hypotheses of C29_search_partial are satisfiable by a non-trivial query (wild card, two stored patients)
def rowN : Row := [some "1234".toList, none, some "1.1".toList, none, none, none, none,
  some "1.1.1".toList, none, none, some "1.1.1.1".toList, none]

example : QrMatch.search .patientRoot false { level := some "PATIENT", keys := [(0, .str "1?3*".toList)] } [rowN, rowA]
    = .rows [0] := by
  have := C29_search_partial .patientRoot "PATIENT" [(0, ["1?3*".toList])] [rowN, rowA] (by simp) (by simp)
    (by intro k hk; simp at hk; subst hk; decide) (by intro k hk; simp at hk; subst hk; decide)
    (by intro k hk; simp at hk; subst hk; decide)
    (by
      intro k hk p hp _
      simp at hk; subst hk
      simp at hp; subst hp
      refine ⟨by decide, ?_⟩
      intro r hr x hx
      simp at hr
      rcases hr with hr | hr <;> subst hr <;> simp [Row.col, rowN, rowA] at hx <;> subst hx <;> decide)
  rw [show (QrMatch.search .patientRoot false { level := some "PATIENT", keys := [(0, .str "1?3*".toList)] } [rowN, rowA])
      = QrMatch.search (mroot .patientRoot) false
          { level := some "PATIENT", keys := [(0, ["1?3*".toList])].map (fun k => (k.1, seenDirect k.2)) } [rowN, rowA] from rfl, this]
  decide +kernel

end PynetVerif
