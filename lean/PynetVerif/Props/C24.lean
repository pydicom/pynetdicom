import PynetVerif.Lemmas.Scu
/-!
C24 — SCU calls surface each response exactly once and fail cleanly; no lock is held while a
response iterator is suspended.

* C-FIND meets the property for every peer.
* C-GET / C-MOVE meet it for every peer that, within the consumed messages, sends no response of the
  other retrieve service, no C-STORE *response* and no C-STORE request without Affected SOP Class UID
  (`…_partial`; each excluded case has a `…_neg` witness).  Lock freedom at every yield, the stop
  rule and the checkpoint law hold for every peer.
* The single-response calls meet it for every peer whose first message is not a valid response of
  another message type (two `…_neg` witnesses); lock, checkpoint and one receive for every peer.
-/
namespace PynetVerif
open Scu Status Spec.Scu

/-- Every valid C-FIND response up to and including the first final one is handed to the caller
exactly once, in order, with its decoded identifier (none for the Repository Query 0xB001 warning
and for the final response); anything else ends the iteration with `(Dataset(), None)`.  The lock
flag of every yield is `false`; the reactor is paused at the Pending yields only. -/
theorem C24_find_once_in_order (rq : Bool) (peer : List PeerMsg) :
    observe St.init (sendCFind rq peer) = (find rq).expectedYields peer :=
  -- the prologue only pauses the reactor: `observe St.init (prologue ++ t)` is `observe sLoop t` by
  -- computation, and so it is with the final state and the counters, here and below
  (wrapFind_meets rq peer).1

/-- The association is aborted exactly where documented: DIMSE timeout without an abort indication on
a live association, invalid response, unexpected message type — and not after a final response nor
when the peer or the provider aborted.  (That the caller then gets `(Dataset(), None)` is part of
`C24_find_once_in_order`.) -/
theorem C24_find_failures (rq : Bool) (peer : List PeerMsg) :
    aborts (sendCFind rq peer) = (find rq).expectedAborts peer :=
  (wrapFind_meets rq peer).2.1

/-- Iteration stops at the first message that is not a non-final valid response: whatever the peer
sends afterwards has no influence (it is not consumed), and exactly one message per continuing
response plus the stopping one is received. -/
theorem C24_find_stops_at_final (rq : Bool) (pre post : List PeerMsg) (m : PeerMsg)
    (hpre : ∀ x ∈ pre, (find rq).continues x = true) (hm : (find rq).continues m = false) :
    sendCFind rq (pre ++ m :: post) = sendCFind rq (pre ++ [m]) ∧
      recvs (sendCFind rq (pre ++ m :: post)) = pre.length + 1 := by
  have h := (wrapFind_loop rq).stops pre post m hpre hm (haltFind_ends rq (some m)).recvs
  exact ⟨congrArg (prologue ++ ·) h.1, h.2⟩

/-- No yield of C-FIND happens with the AE lock held (in particular not the undecodable Pending
identifier), and the lock is free when the generator is finished. -/
theorem C24_find_no_lock_at_yield (rq : Bool) (peer : List PeerMsg) :
    (∀ y ∈ observe St.init (sendCFind rq peer), y.lockHeld = false) ∧
      (finalState St.init (sendCFind rq peer)).lock = false :=
  ⟨(wrapFind_safe rq peer).1, (wrapFind_safe rq peer).2.1⟩

/-- Whenever the C-FIND generator is finished the reactor checkpoint is set again (the reactor
runs), and no exception escapes it. -/
theorem C24_find_checkpoint_restored (rq : Bool) (peer : List PeerMsg) :
    (finalState St.init (sendCFind rq peer)).ckpt = true ∧ raised (sendCFind rq peer) = false := by
  have h := (wrapFind_meets rq peer).2.2
  exact ⟨(wrapFind_safe rq peer).2.2.1.trans (by rw [h]; rfl), h⟩

/-- C-GET meets the property — each valid C-GET response up to and including the first final one is
yielded once, in order (C-STORE sub-operation requests are served in between and are invisible to
the caller); silence / invalid / unexpected messages give `(Dataset(), None)` and abort exactly
where documented; nothing is raised — for every peer whose *consumed* messages contain no C-STORE
response, no valid C-MOVE response and no C-STORE request without Affected SOP Class UID. -/
theorem C24_get_once_in_order_partial (peer : List PeerMsg)
    (h : ∀ m ∈ consumed (retrieve .get).continues peer, deviates .get m = false) :
    observe St.init (sendCGet peer) = (retrieve .get).expectedYields peer ∧
      aborts (sendCGet peer) = (retrieve .get).expectedAborts peer ∧
      raised (sendCGet peer) = false :=
  wrapGetMove_meets .get (.inl rfl) peer h

/-- The same for C-MOVE (excluded: C-STORE response, valid C-GET response, class-less C-STORE
request among the consumed messages). -/
theorem C24_move_once_in_order_partial (peer : List PeerMsg)
    (h : ∀ m ∈ consumed (retrieve .move).continues peer, deviates .move m = false) :
    observe St.init (sendCMove peer) = (retrieve .move).expectedYields peer ∧
      aborts (sendCMove peer) = (retrieve .move).expectedAborts peer ∧
      raised (sendCMove peer) = false :=
  wrapGetMove_meets .move (.inr rfl) peer h

/-- the hypothesis of the partial theorems is satisfiable by a non-trivial peer -/
example : (∀ m ∈ consumed (retrieve .get).continues
      [.storeRq .accepted, .rsp .get true 0xFF00 .absent, .storeRq .unaccepted, .rsp .get true 0xFF00 .absent,
       .rsp .get true 0xB000 .good, .rsp .move true 0 .absent], deviates .get m = false) ∧
    observe St.init (sendCGet
      [.storeRq .accepted, .rsp .get true 0xFF00 .absent, .storeRq .unaccepted, .rsp .get true 0xFF00 .absent,
       .rsp .get true 0xB000 .good, .rsp .move true 0 .absent]) =
      [⟨some 0xFF00, .none, false, true⟩, ⟨some 0xFF00, .none, false, true⟩, ⟨some 0xB000, .ds, false, false⟩] := by
  decide

/-- Defect witness: a valid C-MOVE response sent while a C-GET is outstanding is not treated as an
unexpected message — its status is handed to the caller as the C-GET result and nothing is aborted. -/
theorem C24_get_cross_type_neg : ∃ peer,
    observe St.init (sendCGet peer) ≠ (retrieve .get).expectedYields peer ∧
      aborts (sendCGet peer) = 0 ∧ (retrieve .get).expectedAborts peer = 1 :=
  ⟨[.rsp .move true 0 .absent], by decide⟩

/-- Defect witness: a C-STORE *response* arriving during C-GET/C-MOVE is answered with a C-STORE
response of our own and the iteration goes on, instead of the documented abort. -/
theorem C24_getmove_store_response_neg : ∃ peer,
    storeRsps (sendCGet peer) = [0] ∧ aborts (sendCGet peer) = 0 ∧
      observe St.init (sendCGet peer) ≠ (retrieve .get).expectedYields peer ∧
      (retrieve .get).expectedAborts peer = 1 :=
  ⟨[.rsp .store true 0 .absent, .rsp .get true 0 .absent], by decide⟩

/-- Defect witness: a C-STORE request without Affected SOP Class UID makes the generator raise:
the caller gets no `(Dataset(), None)`, nothing is aborted and the reactor checkpoint stays
cleared (the association's reactor remains paused). -/
theorem C24_getmove_store_without_class_neg : ∃ peer,
    raised (sendCGet peer) = true ∧ observe St.init (sendCGet peer) = [] ∧
      aborts (sendCGet peer) = 0 ∧ (finalState St.init (sendCGet peer)).ckpt = false :=
  ⟨[.storeRq .noClass], by decide⟩

/-- C-GET and C-MOVE run the same generator. -/
theorem C24_move_same_generator : sendCMove = sendCGet := rfl

/-- For every peer: no yield of C-GET/C-MOVE happens with the AE lock held (the final identifier is
decoded under the lock, which is released before the yield), and the lock is free at the end. -/
theorem C24_getmove_no_lock_at_yield (peer : List PeerMsg) :
    (∀ y ∈ observe St.init (sendCGet peer), y.lockHeld = false) ∧
      (finalState St.init (sendCGet peer)).lock = false :=
  ⟨(wrapGetMove_safe peer).1, (wrapGetMove_safe peer).2.1⟩

/-- For every peer: when the C-GET/C-MOVE generator is finished the reactor checkpoint is set again
*unless* an exception escaped it (only `C24_getmove_store_without_class_neg` does that). -/
theorem C24_getmove_checkpoint_restored (peer : List PeerMsg) :
    (finalState St.init (sendCGet peer)).ckpt = !raised (sendCGet peer) :=
  (wrapGetMove_safe peer).2.2.1

/-- For every peer: the generator stops at the first message after which the code does not go on
(`contGM`: served C-STORE primitive or valid Pending C-GET/C-MOVE response); later messages are not
consumed; one receive per consumed message. -/
theorem C24_getmove_stops_at_final (pre post : List PeerMsg) (m : PeerMsg)
    (hpre : ∀ x ∈ pre, contGM x = true) (hm : contGM m = false) :
    sendCGet (pre ++ m :: post) = sendCGet (pre ++ [m]) ∧
      recvs (sendCGet (pre ++ m :: post)) = pre.length + 1 := by
  have h1 : recvs (haltGM (some m)) = 1 := by
    rcases haltGM_ends (some m) with e | ⟨y, n, e⟩
    · rw [e]; rfl
    · exact e.recvs
  have h := wrapGetMove_loop.stops pre post m hpre hm h1
  exact ⟨congrArg (prologue ++ ·) h.1, h.2⟩

/-- For every peer and every single-response call: exactly one message is received, later messages
play no role, the AE lock is never taken, nothing is yielded, and the reactor checkpoint is set
again when the call returns *or raises*. -/
theorem C24_single_lock_checkpoint (svc : Svc) (peer : List PeerMsg) :
    finalState St.init (sendSingle svc peer) = St.init ∧ recvs (sendSingle svc peer) = 1 ∧
      observe St.init (sendSingle svc peer) = [] ∧
      sendSingle svc peer = sendSingle svc peer.head?.toList := by
  obtain ⟨h1, h2, h3⟩ := quiet_facts St.init _ (singleTail_quiet svc peer)
  refine ⟨h1, ?_, h3, ?_⟩
  · unfold sendSingle
    rw [recvs_append, h2]; rfl
  · cases peer with
    | nil => rfl
    | cons m rest => cases m <;> rfl

/-- The single-response calls return the documented value and abort exactly where documented —
`Dataset()` / `(Dataset(), None)` with abort on DIMSE timeout (live association, no abort
indication) and on an invalid response, without abort when the peer or provider aborted; status and
decoded reply for a valid response (`0x0110`, `None` when the reply does not decode) — and raise
nothing, for every peer whose first message is not a valid response of *another* message type. -/
theorem C24_single_failures_partial (svc : Svc) (peer : List PeerMsg)
    (h : ∀ k st id, peer.head? = some (.rsp k true st id) → k = svc.expects) :
    returned (sendSingle svc peer) = some (singleExpected svc peer).1 ∧
      aborts (sendSingle svc peer) = (singleExpected svc peer).2 ∧
      raised (sendSingle svc peer) = false := by
  match peer with
  | [] => exact ⟨rfl, rfl, rfl⟩
  | .none w :: _ => cases w <;> exact ⟨rfl, rfl, rfl⟩
  | .storeRq _ :: _ => exact ⟨rfl, rfl, rfl⟩
  | .rsp k false st id :: _ => exact ⟨rfl, rfl, rfl⟩
  | .rsp k true st id :: rest =>
    obtain rfl := h k st id rfl
    rw [sendSingle, singleTail_expected, singleExpected_expected]
    exact ⟨rfl, rfl, rfl⟩

/-- hypothesis satisfiable, non-trivially -/
example : returned (sendSingle .nGet [.rsp .nGet true 0x0107 .bad]) = some (some 0x0110, .none) ∧
    (singleExpected .nGet [.rsp .nGet true 0x0107 .bad]) = ((some 0x0110, .none), 0) := by decide

/-- Defect witness: the single-response calls never check the type of the message they receive — a
valid C-FIND *Pending* response is returned by `send_c_echo` as the echo status, without abort. -/
theorem C24_single_unexpected_accepted_neg : ∃ svc peer k st id,
    peer.head? = some (.rsp k true st id) ∧ k ≠ svc.expects ∧
      returned (sendSingle svc peer) = some (some st, .none) ∧ aborts (sendSingle svc peer) = 0 ∧
      (singleExpected svc peer) = ((none, .none), 1) :=
  ⟨.echo, [.rsp .find true 0xFF00 .good], .find, 0xFF00, .good, by decide⟩

/-- Defect witness: with a Success/Warning status the N-* calls read their reply attribute from
whatever primitive arrived; a C-ECHO response to `send_n_action` raises (AttributeError) instead
of giving `(Dataset(), None)` and aborting. -/
theorem C24_single_unexpected_raises_neg : ∃ svc peer,
    raised (sendSingle svc peer) = true ∧ returned (sendSingle svc peer) = none ∧
      aborts (sendSingle svc peer) = 0 ∧ (singleExpected svc peer) = ((none, .none), 1) :=
  ⟨.nAction, [.rsp .echo true 0 .absent], by decide⟩

/-- `send_c_cancel` (usable while a response iterator is suspended) takes no lock, touches no
checkpoint and receives nothing. -/
theorem C24_cancel_touches_nothing (s : St) :
    finalState s sendCCancel = s ∧ recvs sendCCancel = 0 ∧ observe s sendCCancel = [] := by
  cases s; exact ⟨rfl, rfl, rfl⟩

end PynetVerif
