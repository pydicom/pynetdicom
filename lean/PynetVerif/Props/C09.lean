import PynetVerif.Spec.Timer
import PynetVerif.Gen.Timer
/-!
C09 — protocol timers measure elapsed time, unaffected by wall-clock changes.

`Timer.*` is the model of `pynetdicom.timer.Timer` (tied to the class by the
differential run of `harness/props/c09.py`), `Spec.Timer.*` the docstring
semantics as a function of the operation history, `Gen.Timer.*` what the
translator reads in `timer.py` / `dul.py` on every run (which `time.*` function
each method calls; which class the DUL's ARTIM and idle timers are).
-/
namespace PynetVerif
open Timer

/-- the model state that the history `h` (most recent first) describes -/
def timerOf (init : Option Int) (h : Spec.Timer.Hist) : T :=
  ⟨Spec.Timer.lastStart h, Spec.Timer.stopSince h, Spec.Timer.curTimeout init h⟩

theorem step_timerOf (init : Option Int) (h : Spec.Timer.Hist) (op : Op) (t : Int) :
    (step (timerOf init h) op t).1 = timerOf init ((op, t) :: h) := by
  cases op <;> rfl

theorem expired_timerOf (init : Option Int) (h : Spec.Timer.Hist) (t : Int) :
    Timer.expired (timerOf init h) t = Spec.Timer.expired init h t := by
  unfold Timer.expired Timer.remaining Spec.Timer.expired Spec.Timer.elapsed timerOf
  cases Spec.Timer.curTimeout init h <;> cases Spec.Timer.lastStart h <;>
    cases Spec.Timer.stopSince h <;> simp <;> omega

theorem remaining_timerOf (init : Option Int) (h : Spec.Timer.Hist) (t : Int) :
    Timer.remaining (timerOf init h) t = Spec.Timer.remaining init h t := by
  unfold Timer.remaining Spec.Timer.remaining Spec.Timer.elapsed timerOf
  cases Spec.Timer.curTimeout init h <;> cases Spec.Timer.lastStart h <;>
    cases Spec.Timer.stopSince h <;> rfl

theorem run_timerOf (init : Option Int) (ops : List (Op × Int)) (h : Spec.Timer.Hist) :
    run (timerOf init h) ops = Spec.Timer.observationsFrom init h ops := by
  induction ops generalizing h with
  | nil => rfl
  | cons o rest ih =>
    obtain ⟨op, t⟩ := o
    simp only [run, step_timerOf, ih]
    cases op <;> simp [step, Spec.Timer.observationsFrom, expired_timerOf, remaining_timerOf]

theorem exec_timerOf (init : Option Int) (ops : List (Op × Int)) (h : Spec.Timer.Hist) :
    exec (timerOf init h) ops = timerOf init (ops.reverse ++ h) := by
  induction ops generalizing h with
  | nil => rfl
  | cons o rest ih => simp [exec, step_timerOf, ih]

theorem Timer.exec_append (s : T) (a b : List (Op × Int)) : exec s (a ++ b) = exec (exec s a) b := by
  induction a generalizing s with
  | nil => rfl
  | cons o rest ih => exact ih _

theorem run_append (s : T) (a b : List (Op × Int)) : run s (a ++ b) = run s a ++ run (exec s a) b := by
  induction a generalizing s with
  | nil => rfl
  | cons o rest ih =>
    obtain ⟨op, t⟩ := o
    simp only [List.cons_append, run, exec]
    cases (step s op t).2 <;> simp [ih]

theorem exec_queries (s : T) (qs : List (Op × Int))
    (hq : ∀ o ∈ qs, o.1 = .expired ∨ o.1 = .remaining) : exec s qs = s := by
  induction qs generalizing s with
  | nil => rfl
  | cons o rest ih =>
    obtain ⟨op, t⟩ := o
    have h1 : op = .expired ∨ op = .remaining := hq (op, t) (by simp)
    have h2 : ∀ o ∈ rest, o.1 = .expired ∨ o.1 = .remaining := fun o ho => hq o (by simp [ho])
    rcases h1 with h1 | h1 <;> subst h1 <;> simp only [exec, step] <;> exact ih s h2

/-- Refinement: for every constructor argument and every sequence of operations
and clock readings, the observations (`expired` / `remaining` values) of the
model of `Timer` are exactly the ones the docstring semantics prescribes. -/
theorem C09_spec (init : Option Int) (ops : List (Op × Int)) :
    run (Timer.init init) ops = Spec.Timer.observations init ops :=
  run_timerOf init ops []

/-- Exactness, in terms of the history: after any operations `pre`, an
`expired` query at reading `t` answers `true` iff the timer has been started, a
timeout `to` is in force, and the time elapsed since the last start — measured
up to `t` while running, up to the stop once stopped — is greater than `to`. -/
theorem C09_exact (init : Option Int) (pre : List (Op × Int)) (t : Int) :
    (run (Timer.init init) (pre ++ [(.expired, t)]) =
        run (Timer.init init) pre ++ [.bool (Timer.expired (exec (Timer.init init) pre) t)]) ∧
    (Timer.expired (exec (Timer.init init) pre) t = true ↔
      ∃ s to, Spec.Timer.lastStart pre.reverse = some s ∧
        Spec.Timer.curTimeout init pre.reverse = some to ∧
        (Spec.Timer.stopSince pre.reverse).getD t - s > to) := by
  refine ⟨by simp [run_append, run, step], ?_⟩
  rw [show Timer.init init = timerOf init [] from rfl, exec_timerOf, List.append_nil, expired_timerOf]
  unfold Spec.Timer.expired Spec.Timer.elapsed
  cases Spec.Timer.curTimeout init pre.reverse <;> cases Spec.Timer.lastStart pre.reverse <;> simp

/-- Exactness without reference to the spec's vocabulary, running timer: from
*any* state with timeout `to` in force, after `start` at reading `st` and any
number of queries, `expired` at reading `t` is exactly `t - st > to` and
`remaining` is `to - (t - st)`. -/
theorem C09_exact_running (s0 : T) (to st t : Int) (qs : List (Op × Int))
    (hto : s0.timeout = some to) (hq : ∀ o ∈ qs, o.1 = .expired ∨ o.1 = .remaining) :
    Timer.expired (exec s0 ((.start, st) :: qs)) t = decide (t - st > to) ∧
    Timer.remaining (exec s0 ((.start, st) :: qs)) t = to - (t - st) := by
  simp only [exec, step]
  rw [exec_queries _ qs hq]
  simp [Timer.expired, Timer.remaining, hto]
  omega

/-- … and stopped timer: after `start` at `st`, queries, `stop` at `en` and
further queries, the answers are frozen at `en - st` whatever the clock reads
("once stopped, report the state they had when stopped"). -/
theorem C09_exact_stopped (s0 : T) (to st en t : Int) (qs qs' : List (Op × Int))
    (hto : s0.timeout = some to) (hq : ∀ o ∈ qs, o.1 = .expired ∨ o.1 = .remaining)
    (hq' : ∀ o ∈ qs', o.1 = .expired ∨ o.1 = .remaining) :
    Timer.expired (exec s0 ((.start, st) :: qs ++ (.stop, en) :: qs')) t = decide (en - st > to) ∧
    Timer.remaining (exec s0 ((.start, st) :: qs ++ (.stop, en) :: qs')) t = to - (en - st) := by
  have e : exec s0 ((.start, st) :: qs ++ (.stop, en) :: qs')
      = { start := some st, stop := some en, timeout := s0.timeout } := by
    rw [List.cons_append, exec, exec_append, exec_queries _ qs hq, exec, exec_queries _ qs' hq']
    simp [step]
  rw [e]
  simp [Timer.expired, Timer.remaining, hto]
  omega

theorem C09_none_and_unstarted (s : T) (t : Int) :
    (s.timeout = none → Timer.expired s t = false ∧ Timer.remaining s t = 1) ∧
    (s.start = none → Timer.expired s t = false ∧
      (∀ to, s.timeout = some to → Timer.remaining s t = to)) := by
  refine ⟨fun h => by simp [Timer.expired, Timer.remaining, h], fun h => ⟨?_, fun to hto => ?_⟩⟩
  · cases hto : s.timeout <;> simp [Timer.expired, h, hto]
  · simp [Timer.remaining, h, hto]

/-- With readings that do not decrease (a monotonic clock), a timer that has
expired stays expired until it is operated on again, and `remaining` never grows. -/
theorem C09_expired_stable (s : T) (t t' : Int) (h : t ≤ t') :
    (Timer.expired s t = true → Timer.expired s t' = true) ∧
    Timer.remaining s t' ≤ Timer.remaining s t := by
  unfold Timer.expired Timer.remaining
  cases s.timeout <;> cases s.start <;> cases s.stop <;> simp <;> omega

/-- The clock the real `Timer` reads, as found by the translator in the
current source: `start`, `stop` and `remaining` all call the same monotonic
function of `time`, and no method calls any other clock. -/
theorem C09_clock : Gen.Timer.clock = .monotonic := by decide

/-- two stamped sequences that differ at most in their wall-clock offsets -/
def sameMono (a b : List Stamped) : Prop :=
  a.map (fun o => (o.op, o.m)) = b.map (fun o => (o.op, o.m))

/-- Wall-clock independence: reading the clock the source reads, the
observations of a timer do not depend on the wall-clock offsets at all — any
two runs with the same operations and monotonic readings give the same
answers, whatever steps of either sign the system clock makes in between — and
they are the docstring semantics evaluated on the monotonic readings. -/
theorem C09_wall_independent (timeout : Option Int) (a b : List Stamped) (h : sameMono a b) :
    runTimer Gen.Timer.clock timeout a = runTimer Gen.Timer.clock timeout b ∧
    runTimer Gen.Timer.clock timeout a =
      Spec.Timer.observations timeout (a.map (fun o => (o.op, o.m))) := by
  rw [C09_clock]
  have e : ∀ l : List Stamped, l.map (fun o => (o.op, reading .monotonic o)) = l.map (fun o => (o.op, o.m)) :=
    fun l => rfl
  unfold runTimer
  rw [e a, e b, h]
  exact ⟨rfl, C09_spec timeout _⟩

/-- Why the clock identity matters: a timer reading the wall clock is made to
expire early by a forward step (1 tick elapsed, timeout 10, clock set +100)
and is delayed by a backward step (100 ticks elapsed, clock set −100), with
monotonic readings that are perfectly ordinary. -/
theorem C09_wall_neg :
    (∃ ops : List Stamped, monoOK ops = true ∧
      runTimer .wall (some 10) ops = [.bool true] ∧ runTimer .monotonic (some 10) ops = [.bool false]) ∧
    (∃ ops : List Stamped, monoOK ops = true ∧
      runTimer .wall (some 10) ops = [.bool false] ∧ runTimer .monotonic (some 10) ops = [.bool true]) :=
  ⟨⟨[⟨.start, 0, 0⟩, ⟨.expired, 1, 100⟩], by decide⟩,
   ⟨[⟨.start, 0, 0⟩, ⟨.expired, 100, -100⟩], by decide⟩⟩

/-- The DUL's ARTIM and network-idle timers are instances of this class and the
DUL's expiry decisions read `.expired` of those objects; `dul.py` itself calls
no clock function (only `time.sleep`). -/
theorem C09_dul_uses_timer :
    Gen.Timer.dulTimerFrom = "pynetdicom.timer.Timer" ∧
    Gen.Timer.dulTimers = [("_idle_timer", ["Timer"]), ("artim_timer", ["Timer"])] ∧
    Gen.Timer.dulReads = [("idle_timer_expired", "self._idle_timer.expired"),
                          ("reactor", "self.artim_timer.expired")] ∧
    Gen.Timer.dulTimeCalls.all (· == "sleep") = true := ⟨rfl, rfl, rfl, by decide⟩

-- non-vacuity: a run that starts, changes the timeout while running, stops after expiry
-- and is queried under a wall step; hypotheses of the exactness theorems are satisfiable
example : runTimer .monotonic (some 5)
    [⟨.remaining, 0, 0⟩, ⟨.stop, 1, 0⟩, ⟨.expired, 1, 0⟩, ⟨.start, 2, 0⟩, ⟨.expired, 7, 50⟩, ⟨.expired, 8, 50⟩,
     ⟨.setTimeout (some 20), 8, 50⟩, ⟨.expired, 9, -50⟩, ⟨.setTimeout (some 3), 9, 0⟩, ⟨.stop, 10, 0⟩,
     ⟨.remaining, 99, 0⟩, ⟨.setTimeout none, 99, 0⟩, ⟨.remaining, 99, 0⟩, ⟨.expired, 99, 0⟩]
    = [.val 5, .bool false, .bool false, .bool true, .bool false, .val (-5), .val 1, .bool false] := by decide
example : ∃ (s0 : T) (qs : List (Op × Int)), s0.timeout = some 30 ∧ qs ≠ [] ∧
    ∀ o ∈ qs, o.1 = .expired ∨ o.1 = .remaining :=
  ⟨⟨some 1, some 2, some 30⟩, [(.expired, 4), (.remaining, 5)], rfl, by simp, by simp⟩
example : sameMono [⟨.start, 0, 0⟩, ⟨.expired, 31, 0⟩] [⟨.start, 0, 7⟩, ⟨.expired, 31, -3600⟩] := rfl

end PynetVerif
