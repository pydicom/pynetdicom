import PynetVerif.Model.History
import PynetVerif.Props.C05
/-!
C27 — event notifications form a well-formed history.

`History.wf` is the executable statement of well-formedness; every history recorded from real
associations by the end-to-end harness is fed to it through the driver.  The theorems below are
about the histories the reactor model (`Dul.run`, validated in lockstep against the real reactor
under C05) emits, for every schedule of reactor steps and environment steps.
-/
namespace PynetVerif
open Dul History

theorem chainFrom_append_fsm : ∀ (L : List Notif) (st c e n : Nat),
    chainFrom st (L ++ [.fsm c e n]) = (chainFrom st L && (endFrom st L == c)) := by
  intro L
  induction L with
  | nil => intro st c e n; simp [chainFrom, endFrom]; exact BEq.comm
  | cons x xs ih =>
    intro st c e n
    cases x <;> simp [chainFrom, endFrom, ih, Bool.and_assoc]

theorem endFrom_append_fsm : ∀ (L : List Notif) (st c e n : Nat),
    endFrom st (L ++ [.fsm c e n]) = n := by
  intro L
  induction L with
  | nil => intro st c e n; simp [endFrom]
  | cons x xs ih => intro st c e n; cases x <;> simp [endFrom, ih]

/-- invariant: the emitted transitions chain from Sta1 and end in the current state -/
def ChainInv (s : St) : Prop :=
  chainFrom 1 (ofLog s.log) = true ∧ endFrom 1 (ofLog s.log) = s.fsm

theorem ofLog_cons_ok (d : Dispatch) (log : List Dispatch) (h : d.ok = true) :
    ofLog (d :: log) = ofLog log ++ [.fsm d.state d.evt d.next] := by
  simp [ofLog, List.filter_append, h]

theorem ofLog_cons_notok (d : Dispatch) (log : List Dispatch) (h : d.ok = false) :
    ofLog (d :: log) = ofLog log := by
  simp [ofLog, List.filter_append, h]

theorem act_chain (s : St) (a : Fsm.Action) (e : Nat) (h : ChainInv s) : ChainInv (act s a e) := by
  obtain ⟨h1, h2⟩ := h
  unfold ChainInv
  rw [act_eq]
  show chainFrom 1 (ofLog (_ :: s.log)) = true ∧ endFrom 1 (ofLog (_ :: s.log)) = _
  rw [ofLog_cons_ok _ _ rfl]
  simp only [chainFrom_append_fsm, endFrom_append_fsm, h1, h2, beq_self_eq_true, Bool.and_self, and_self]

/-- invariant: at most one connection-close notification, and only together with the kill flag -/
def CloseInv (s : St) : Prop := s.closes = 0 ∨ (s.closes = 1 ∧ s.kill = true)

theorem act_close (s : St) (a : Fsm.Action) (e : Nat) (h0 : s.closes = 0) : CloseInv (act s a e) := by
  obtain ⟨c1, c2⟩ := C05_sta1_closes s a e
  unfold CloseInv
  rw [c2, h0]
  by_cases hf : (act s a e).fsm = 1
  · exact Or.inr ⟨by simp [hf], c1 hf⟩
  · exact Or.inl (by simp [hf])

theorem step_inv (s : St) (st : Step) (h : ChainInv s ∧ CloseInv s) :
    ChainInv (step s st) ∧ CloseInv (step s st) := by
  cases st with
  | env ev => cases ev <;> exact h
  | a =>
    show ChainInv (iterA s) ∧ CloseInv (iterA s)
    unfold ChainInv CloseInv
    rw [iterA_eq]
    exact h
  | b =>
    show ChainInv (iterB s) ∧ CloseInv (iterB s)
    -- a reactor that has not been told to stop has closed nothing yet
    have h0 : s.kill = false → s.closes = 0 := fun hk =>
      h.2.resolve_right fun h1 => by rw [hk] at h1; cases h1.2
    rcases iterB_cases s with hi | hi | ⟨e, rest, -, hk, k, hi⟩ | ⟨e, rest, a, -, hk, -, -, hi⟩ <;> rw [hi]
    · exact h
    · exact h
    · -- a dispatch that did not complete emits no transition
      refine ⟨?_, Or.inl (h0 hk)⟩
      unfold ChainInv
      rw [show ofLog (_ :: s.log) = ofLog s.log from ofLog_cons_notok _ _ rfl]
      exact h.1
    · exact ⟨act_chain _ a e h.1, act_close _ a e (h0 hk)⟩

theorem history_inv (requestor : Bool) (sched : List Step) :
    ChainInv (run (if requestor then initRequestor else initAcceptor) sched) ∧
      CloseInv (run (if requestor then initRequestor else initAcceptor) sched) := by
  have h0 : ChainInv (if requestor then initRequestor else initAcceptor) ∧
      CloseInv (if requestor then initRequestor else initAcceptor) := by
    cases requestor <;> exact ⟨⟨rfl, rfl⟩, Or.inl rfl⟩
  exact List.foldlRecOn sched step h0 fun s h st _ => step_inv s st h

/-- **State-machine notifications chain**: for every schedule of reactor and environment steps,
each transition the reactor emits starts in the state the previous one ended in (the first in
Sta1), and the last one ends in the reactor's current state. -/
theorem C27_fsm_chain (requestor : Bool) (sched : List Step) :
    let s := run (if requestor then initRequestor else initAcceptor) sched
    chainFrom 1 (ofLog s.log) = true ∧ endFrom 1 (ofLog s.log) = s.fsm :=
  (history_inv requestor sched).1

/-- **Connection-close happens at most once, and nothing is dispatched after it**: for every
schedule the reactor notifies connection-close at most once, only together with the kill flag
(after which the reactor performs no further step). -/
theorem C27_conn_close_at_most_once (requestor : Bool) (sched : List Step) :
    let s := run (if requestor then initRequestor else initAcceptor) sched
    s.closes ≤ 1 ∧ (s.closes = 1 → s.kill = true) := by
  rcases (history_inv requestor sched).2 with h | ⟨h1, h2⟩
  · exact ⟨by omega, by omega⟩
  · exact ⟨by omega, fun _ => h2⟩

/-- once the kill flag is set the reactor emits nothing more -/
theorem C27_nothing_after_kill (s : St) (st : Step) (h : s.kill = true) :
    (step s st).log = s.log ∧ (step s st).closes = s.closes := by
  cases st with
  | env ev => cases ev <;> exact ⟨rfl, rfl⟩
  | a => simp [step, iterA, St.live, h]
  | b => simp [step, iterB, St.live, h]

-- non-vacuity: the executable checker accepts a typical acceptor history and rejects a broken one
example : wf true [.connOpen, .dataRecv 1, .pduRecv 1, .fsm 1 5 2, .fsm 2 6 3, .dataSent 2, .pduSent 2, .fsm 3 7 6,
    .established, .dataRecv 5, .pduRecv 5, .fsm 6 12 8, .released, .dataSent 6, .pduSent 6, .fsm 8 14 13,
    .connClose, .fsm 13 17 1] = true ∧
    verdict true [.connOpen, .fsm 1 5 2, .fsm 3 7 6] = "fsm-chain-broken" ∧
    verdict true [.connOpen, .connClose, .pduSent 7] = "conn-close-repeated-or-not-last" := by decide +kernel

end PynetVerif
