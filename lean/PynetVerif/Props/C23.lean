import PynetVerif.Model.Cancel
import PynetVerif.Gen.Cancel
/-!
C23 — a C-CANCEL reaches exactly the operation it names.

`Cancel.*` is the model of `dimse.cancel_req` as maintained by
`DIMSEServiceProvider.receive_primitive`, `ServiceClass.is_cancelled` and the two
clearing statements of `Association._serve_request` (tied to the real methods by
the differential run of `harness/props/c23.py`); `Gen.Cancel.*` is what the
translator reads in the source on every run (the bound of the guard and where
the clearing statements stand).

Event sequences are arbitrary lists — not only well-bracketed ones — so the
theorems also cover a second `_serve_request` running concurrently (the
N-EVENT-REPORT thread of `receive_primitive`, should it clear the store) and queries made outside any
operation.
-/
namespace PynetVerif
open Cancel

namespace Cancel

theorem mem_dictSet (keys : List Nat) (j id : Nat) : id ∈ dictSet keys j ↔ id ∈ keys ∨ id = j := by
  unfold dictSet
  split
  next hj => exact ⟨Or.inl, fun h => h.elim (fun h => h) (· ▸ hj)⟩
  next => simp

theorem answer_iff (s : S) (id : Nat) : answer s id = true ↔ id ∈ s.store := by
  unfold answer query
  split <;> simp [*]

/-- a cancel for `id` is recorded when there is room or one is pending already -/
def Room (s : S) (id : Nat) : Prop := s.store.length < bound ∨ id ∈ s.store

/-- the one fact about a step from which the theorems below follow -/
theorem mem_store_step (s : S) (e : Ev) (id : Nat) :
    id ∈ (step s e).1.store ↔
      (id ∈ s.store ∧ e.clears = false ∧ e ≠ .query id) ∨ (e = .recvCancel id ∧ Room s id) := by
  cases e with
  | recvCancel j =>
    simp only [step, recv, Room]
    split <;> simp [mem_dictSet, Ev.clears, eq_comm, *]
  | beginOp k => simp [step, Ev.clears]
  | endOp => simp [step, Ev.clears]
  | endOpRaise => simp [step, Ev.clears]
  | query j =>
    simp only [step, query]
    have hne : Ev.query j ≠ Ev.query id ↔ id ≠ j := by simp [eq_comm]
    split
    next => simp [Ev.clears, hne]
    next hj =>
      simp only [Ev.clears, hne, reduceCtorEq, false_and, or_false, true_and]
      exact ⟨fun h => ⟨h, fun e => hj (e ▸ h)⟩, And.left⟩

theorem mem_store_exec (evs : List Ev) (s : S) (id : Nat) :
    id ∈ (exec s evs).store ↔ (id ∈ s.store ∧ keeps id evs) ∨
      ∃ a b, evs = a ++ Ev.recvCancel id :: b ∧ Room (exec s a) id ∧ keeps id b := by
  induction evs generalizing s with
  | nil => simp [exec, keeps]
  | cons e rest ih =>
    rw [exec, ih, mem_store_step]
    constructor
    · rintro (⟨h | h, hk⟩ | ⟨a, b, rfl, hr, hk⟩)
      · exact Or.inl ⟨h.1, fun e' he' => by
          rcases List.mem_cons.mp he' with rfl | he'
          · exact h.2
          · exact hk e' he'⟩
      · exact Or.inr ⟨[], rest, by rw [h.1]; rfl, h.2, hk⟩
      · exact Or.inr ⟨e :: a, b, rfl, hr, hk⟩
    · rintro (⟨h, hk⟩ | ⟨a, b, he, hr, hk⟩)
      · exact Or.inl ⟨Or.inl ⟨h, hk e List.mem_cons_self⟩, fun e' he' => hk e' (List.mem_cons_of_mem _ he')⟩
      · cases a with
        | nil => cases he; exact Or.inl ⟨Or.inr ⟨rfl, hr⟩, hk⟩
        | cons x a => cases he; exact Or.inr ⟨a, b, rfl, hr, hk⟩

theorem exec_append (s : S) (a b : List Ev) : exec s (a ++ b) = exec (exec s a) b := by
  induction a generalizing s with
  | nil => rfl
  | cons e r ih => exact ih _

theorem run_append (s : S) (a b : List Ev) : run s (a ++ b) = run s a ++ run (exec s a) b := by
  induction a generalizing s with
  | nil => rfl
  | cons e r ih =>
    simp only [List.cons_append, run, exec]
    cases (step s e).2 <;> simp [ih]

theorem store_length_step (s : S) (e : Ev) :
    (step s e).1.store.length ≤ s.store.length + (if e.isRecv then 1 else 0) := by
  cases e with
  | recvCancel j =>
    simp only [step, recv, Ev.isRecv, if_true]
    split
    · unfold dictSet; split <;> simp
    · exact Nat.le_succ _
  | query j =>
    simp only [step, query, Ev.isRecv, Bool.false_eq_true, if_false, Nat.add_zero]
    split
    · exact List.length_filter_le _ _
    · exact Nat.le_refl _
  | _ => simp [step, Ev.isRecv]

theorem store_len_le (w : List Ev) (s : S) :
    (exec s w).store.length ≤ s.store.length + (w.filter Ev.isRecv).length := by
  induction w generalizing s with
  | nil => simp [exec]
  | cons e rest ih =>
    have h1 := store_length_step s e
    have h2 := ih (step s e).1
    rw [exec, List.filter_cons]
    cases hr : e.isRecv <;>
      simp only [hr, if_true, if_false, Bool.false_eq_true, List.length_cons] at h1 ⊢ <;> omega

end Cancel

/-- The answer of an `is_cancelled(id)` call made after the events `pre` is the
observation the model records for a `query id` event at that point. -/
theorem C23_answer_is_observation (pre : List Ev) (id : Nat) :
    run Cancel.init (pre ++ [.query id]) = run Cancel.init pre ++ [answer (exec Cancel.init pre) id] := by
  simp [run_append, run, step, answer]

/-- Soundness, for every event sequence: `is_cancelled(id)` answers `True` only
if a C-CANCEL naming exactly `id` was received earlier and, since then, the
store was not emptied (no operation began, none ended normally) and no query
consumed it.  So a cancel is never reported to an operation with another
message ID, a cancel received before the current operation began is never
reported to it, and none survives the end of the operation it was received in. -/
theorem C23_sound (pre : List Ev) (id : Nat) (h : answer (exec Cancel.init pre) id = true) :
    ∃ a b, pre = a ++ Ev.recvCancel id :: b ∧
      ∀ e ∈ b, (∀ k, e ≠ .beginOp k) ∧ e ≠ .endOp ∧ e ≠ .query id := by
  rcases (mem_store_exec pre Cancel.init id).mp ((answer_iff _ _).mp h) with ⟨h0, -⟩ | ⟨a, b, hp, -, hk⟩
  · cases h0
  · refine ⟨a, b, hp, fun e he => ?_⟩
    obtain ⟨h1, h2⟩ := hk e he
    refine ⟨fun k hk' => ?_, fun hk' => ?_, h2⟩ <;> (subst hk'; cases h1)

/-- No carry-over, stated directly: right after an operation begins or ends
normally every `is_cancelled` answers `False`, whatever was received before. -/
theorem C23_clear_forgets (s : S) (k id : Nat) :
    answer (step s (.beginOp k)).1 id = false ∧ answer (step s .endOp).1 id = false := by
  simp [← Bool.not_eq_true, answer_iff, mem_store_step, Ev.clears]

/-- Completeness under the exact condition the code imposes: a C-CANCEL for `id`
received when fewer than 10 cancels are pending (or one for `id` already is),
and not followed by the begin/normal end of an operation or a query for `id`,
makes the next `is_cancelled(id)` answer `True` — whatever other cancels and
queries for other IDs happen in between. -/
theorem C23_complete_partial (a b : List Ev) (id : Nat) (hb : keeps id b)
    (hroom : (exec Cancel.init a).store.length < bound ∨ id ∈ (exec Cancel.init a).store) :
    answer (exec Cancel.init (a ++ Ev.recvCancel id :: b)) id = true := by
  exact (answer_iff _ _).mpr ((mem_store_exec _ _ id).mpr (Or.inr ⟨a, b, rfl, hroom, hb⟩))

/-- The same in terms of what the peer did: during an operation (after its
`beginOp`), if fewer than 10 C-CANCELs were received before the one for `id`,
that one is reported. -/
theorem C23_complete_count_partial (a w b : List Ev) (k id : Nat) (hb : keeps id b)
    (hcount : (w.filter Ev.isRecv).length < bound) :
    answer (exec Cancel.init (a ++ Ev.beginOp k :: (w ++ Ev.recvCancel id :: b))) id = true := by
  have e : a ++ Ev.beginOp k :: (w ++ Ev.recvCancel id :: b)
      = (a ++ Ev.beginOp k :: w) ++ Ev.recvCancel id :: b := by simp
  rw [e]
  apply C23_complete_partial _ b id hb
  left
  rw [exec_append]
  have := store_len_le w (step (exec Cancel.init a) (.beginOp k)).1
  simp only [exec, step] at *
  simp only [List.length_nil] at this
  omega

/- The full-strength completeness statement is FALSE for the current code:

     theorem C23_complete (a b : List Ev) (id : Nat) (hb : keeps id b) :
         answer (exec Cancel.init (a ++ Ev.recvCancel id :: b)) id = true

   its negation is proved next, with the witness replayed on the implementation. -/

/-- Overflow: while request 1 is being served, ten C-CANCELs naming other
message IDs are pending; the eleventh, naming the operation in progress, is not
recorded — `is_cancelled(1)` answers `False` — and it is put on the ordinary
message queue (`queued = [1]`), where the reactor will take it for a service
request. -/
theorem C23_neg_overflow :
    ∃ (a b : List Ev) (id : Nat), keeps id b ∧
      (∃ w, a = Ev.beginOp id :: w ∧ ∀ e ∈ w, e.isRecv = true) ∧
      answer (exec Cancel.init (a ++ Ev.recvCancel id :: b)) id = false ∧
      (exec Cancel.init (a ++ Ev.recvCancel id :: b)).queued = [id] :=
  ⟨Ev.beginOp 1 :: (List.range 10).map (fun i => Ev.recvCancel (i + 2)), [], 1,
    (fun e he => by cases he),
    ⟨(List.range 10).map (fun i => Ev.recvCancel (i + 2)), rfl, by decide⟩,
    (by decide), (by decide)⟩

theorem C23_complete_neg :
    ¬ ∀ (a b : List Ev) (id : Nat), keeps id b →
      answer (exec Cancel.init (a ++ Ev.recvCancel id :: b)) id = true := by
  intro h
  obtain ⟨a, b, id, hk, _, hf, _⟩ := C23_neg_overflow
  have := h a b id hk
  rw [hf] at this
  cases this

/-- A cancel is consumed by the query that reports it: asked again, with no new
C-CANCEL in between, `is_cancelled(id)` answers `False`. -/
theorem C23_consumed_once (s : S) (id : Nat) : answer (query s id).1 id = false := by
  have := mem_store_step s (.query id) id
  simpa [← Bool.not_eq_true, answer_iff, step] using this

/-- A query for another message ID neither reports nor consumes a cancel for `id`. -/
theorem C23_query_other_keeps (s : S) (id j : Nat) (h : j ≠ id) :
    answer (query s j).1 id = answer s id := by
  have e : id ∈ (query s j).1.store ↔ id ∈ s.store := by
    have := mem_store_step s (.query j) id
    simpa [step, Ev.clears, h] using this
  rw [Bool.eq_iff_iff, answer_iff, answer_iff, e]

/-- Receiving the same cancel twice leaves the store as after the first. -/
theorem C23_recv_idempotent (s : S) (id : Nat) : (recv (recv s id) id).store = (recv s id).store := by
  unfold recv
  by_cases h : s.store.length < bound
  · simp only [h, ↓reduceIte]
    have hm : id ∈ dictSet s.store id := (mem_dictSet s.store id id).mpr (Or.inr rfl)
    split
    · show dictSet (dictSet s.store id) id = dictSet s.store id
      generalize dictSet s.store id = k at hm
      simp [dictSet, hm]
    · rfl
  · simp [h]

/-- What the translator reads in the current source: the guard is
`len(self.cancel_req) < 10`, and in `_serve_request` the store is emptied
immediately before and immediately after the service class call (with only the
two writes of the pause flag in between), nowhere else, and not on the exception paths — both
times under the test `not isinstance(msg, N_EVENT_REPORT)`, N-EVENT-REPORT being
the one class `receive_primitive` serves in a thread of its own. -/
theorem C23_bound_and_clear_sites :
    Gen.Cancel.bound = some Cancel.bound ∧ Gen.Cancel.cmp = "Lt" ∧
    Gen.Cancel.serveTry = ["clear-if", "pause-if", "scp", "pause-if", "clear-if"] ∧
    Gen.Cancel.clearGuards = ["not isinstance(msg, N_EVENT_REPORT)", "not isinstance(msg, N_EVENT_REPORT)"] ∧
    Gen.Cancel.sideThread = ["N_EVENT_REPORT"] ∧
    Gen.Cancel.handlersTouchStore = false ∧ Gen.Cancel.serveTouches = 2 :=
  ⟨rfl, rfl, rfl, rfl, rfl, rfl, rfl⟩

/-- A request of another kind served meanwhile (the N-EVENT-REPORT thread) leaves the pending
cancels of the operation in progress alone: with the regenerated source facts its whole
`_serve_request` run contributes no event to the store's history … -/
theorem C23_side_request_keeps_store :
    Cancel.sideClears Gen.Cancel.serveTry Gen.Cancel.clearGuards Gen.Cancel.sideThread = false ∧
    Cancel.sideEvents (Cancel.sideClears Gen.Cancel.serveTry Gen.Cancel.clearGuards Gen.Cancel.sideThread) = [] := by
  decide +kernel

/-- … so completeness holds through any number of such requests: a matching C-CANCEL received with
room in the store is reported by the next `is_cancelled(id)`, however many side-thread requests were
served completely in between (one after each of the stretches `bs` of other events). -/
theorem C23_complete_through_side_requests (a : List Ev) (bs : List (List Ev)) (id : Nat)
    (hb : ∀ b ∈ bs, keeps id b)
    (hroom : (exec Cancel.init a).store.length < bound ∨ id ∈ (exec Cancel.init a).store) :
    answer (exec Cancel.init (a ++ Ev.recvCancel id ::
      (bs.map (fun b => b ++ Cancel.sideEvents
        (Cancel.sideClears Gen.Cancel.serveTry Gen.Cancel.clearGuards Gen.Cancel.sideThread))).flatten)) id = true := by
  apply C23_complete_partial a _ id _ hroom
  rw [C23_side_request_keeps_store.2]
  intro e he
  simp only [List.append_nil, List.map_id', List.mem_flatten] at he
  obtain ⟨b, hbm, heb⟩ := he
  exact hb b hbm e heb

/-- The code before its repair cleared unconditionally: the N-EVENT-REPORT thread's run then emptied
the store under the running operation and the matching cancel was never reported (the failing
history of the known-findings entry `fixed: C23 … N-EVENT-REPORT`). -/
theorem C23_side_clear_neg :
    Cancel.sideClears ["clear", "pause", "scp", "pause", "clear"] [] ["N_EVENT_REPORT"] = true ∧
    run Cancel.init ([.beginOp 5, .recvCancel 5] ++ Cancel.sideEvents true ++ [.query 5]) = [false] ∧
    run Cancel.init ([.beginOp 5, .recvCancel 5] ++ Cancel.sideEvents false ++ [.query 5]) = [true] := by decide

example : keeps 7 [.recvCancel 3, .query 3, .query 9, .recvCancel 7, .endOpRaise] := by
  intro e he; simp at he; rcases he with h | h | h | h | h <;> subst h <;> simp [Ev.clears]
example : run Cancel.init [.recvCancel 5, .beginOp 5, .query 5, .recvCancel 6, .recvCancel 5, .query 4, .query 5,
    .query 5, .endOp, .query 6, .beginOp 6, .recvCancel 6, .endOpRaise, .query 6]
    = [false, false, true, false, false, true] := by decide
example : (exec Cancel.init [.beginOp 1, .recvCancel 2, .recvCancel 3]).store.length < bound := by decide
-- a second clearing `_serve_request` interleaved with the operation would empty the store under it: the
-- model covers it as a `beginOp`/`endOp` pair inside the operation (see `C23_side_clear_neg`)
example : run Cancel.init [.beginOp 5, .recvCancel 5, .beginOp 77, .endOp, .query 5] = [false] := by decide
example : (([.recvCancel 2, .query 2, .recvCancel 3] : List Ev).filter Ev.isRecv).length < bound := by decide

end PynetVerif
