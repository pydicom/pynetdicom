import PynetVerif.Model.DulAdmissible
import PynetVerif.Model.DulBoth
/-!
C05 (streaming part) — what surrounds `C05_defined_partial` where P-DATA requests are streamed (`streamOk`,
Model/DulAdmissible.lean).  The auxiliary condition `streamQ` cannot be dropped (`C05_neg_stream_*`: the
"stale view" race of `C05.lean` in its streaming form); there are schedules `runOk` admits and `runOkSync`
does not; and a reactor that serves both event sources in one iteration (`Model/DulBoth.lean`) dies on an
admissible streamed schedule (`C05_neg_stream_both_sources`): the invariant is about "a primitive OR a PDU
per iteration".
-/
namespace PynetVerif
open Fsm Dul

/-- association established on the acceptor side: Sta6, everything quiescent -/
def C05Stream.established : List Step :=
  [.a, .b, .env (.peer (.pdu 6 false)), .a, .b, .env (.local .accept), .a, .b]

open C05Stream

theorem C05_stream_established :
    runOk initAcceptor established = true ∧ (run initAcceptor established).fsm = 6 ∧
    quiescent (run initAcceptor established) = true := by decide +kernel

/-- **Stale view, streaming form (invalid PDU).**  The peer's invalid PDU has been *read* by phase A
(Evt19 is queued, the provider is still in Sta6) when the local user streams a P-DATA request: phase B
runs AA-8 (→ Sta13), the next iteration dispatches Evt9 in Sta13, which has no table entry — the thread
dies.  The request satisfies every clause of `streamOk` except `streamQ`. -/
theorem C05_neg_stream_after_invalid_pdu_read :
    let pre := established ++ [.env (.peer .invalid), .a]
    let s := run initAcceptor pre
    runOk initAcceptor pre = true ∧
    s.fsm = 6 ∧ allPdata s.provQ = true ∧ s.eventQ = [19] ∧ streamQ s = false ∧
    stepOk s (.env (.local .pdata)) = false ∧
    (run s [.env (.local .pdata), .b, .a, .b]).dead = true ∧
    ((run s [.env (.local .pdata), .b, .a, .b]).log.head?.map (fun d => (d.evt, d.state, d.action))) =
      some (9, 13, none) := by decide +kernel

/-- the same with a P-DATA-TF PDU whose payload cannot be decoded (DT-2 queues Evt19 itself): this is why
`streamQ` asks for `headDecodable` when the event in progress is Evt10 -/
theorem C05_neg_stream_after_undecodable_pdata_read :
    let pre := established ++ [.env (.peer (.pdu 10 true)), .a]
    let s := run initAcceptor pre
    runOk initAcceptor pre = true ∧
    s.fsm = 6 ∧ allPdata s.provQ = true ∧ s.eventQ = [10] ∧ streamQ s = false ∧
    (run s [.env (.local .pdata), .b, .a, .b, .a, .b]).dead = true := by decide +kernel

/-- the same with an A-ASSOCIATE-AC PDU in Sta6 (AA-8); Evt4, Evt6 and Evt13 behave alike -/
theorem C05_neg_stream_after_unexpected_pdu_read :
    let pre := established ++ [.env (.peer (.pdu 3 false)), .a]
    let s := run initAcceptor pre
    runOk initAcceptor pre = true ∧
    s.fsm = 6 ∧ allPdata s.provQ = true ∧ s.eventQ = [3] ∧ streamQ s = false ∧
    (run s [.env (.local .pdata), .b, .a, .b]).dead = true := by decide +kernel

/-- …whereas the same PDUs are harmless as long as the reactor has not read them: a peer PDU of any kind
arriving while P-DATA requests are pending stays in the inbox until the provider queue has drained (local
primitives have priority), so the peer needs no restriction.  Here an invalid PDU arrives between two
streamed requests; both are sent, then AA-8 runs, and the schedule is admissible. -/
theorem C05_stream_invalid_pdu_unread :
    let sched := established ++ [.env (.local .pdata), .env (.peer .invalid), .env (.local .pdata),
      .a, .b, .a, .b, .a, .b]
    runOk initAcceptor sched = true ∧ (run initAcceptor sched).dead = false ∧
    (run initAcceptor sched).fsm = 13 ∧
    ((run initAcceptor sched).log.map (·.evt)).reverse = [5, 6, 7, 9, 9, 19] := by decide +kernel

-- three P-DATA requests queued back to back while two more P-DATA-TF PDUs of the peer arrive in between
-- and the reactor is between phase A and phase B of an iteration (it has just read a first PDU); the
-- three requests are sent first (primitives have priority), then the two PDUs are read
example : let sched : List Step := established ++
      [.env (.peer (.pdu 10 false)), .a,
       .env (.local .pdata), .env (.peer (.pdu 10 false)), .env (.local .pdata),
       .env (.peer (.pdu 10 false)), .env (.local .pdata),
       .b, .a, .b, .a, .b, .a, .b, .a, .b, .a, .b]
    runOk initAcceptor sched = true ∧ (run initAcceptor sched).dead = false ∧
    (run initAcceptor sched).fsm = 6 ∧ (run initAcceptor sched).provQ = [] ∧
    (run initAcceptor sched).inbox = [] ∧
    ((run initAcceptor sched).log.map (·.evt)).reverse = [5, 6, 7, 10, 9, 9, 9, 10, 10] := by decide +kernel

-- the state in which the second and third request are issued is not quiescent: `quiescentOk` alone
-- rejects them
example : let s := run initAcceptor (established ++ [.env (.peer (.pdu 10 false)), .a, .env (.local .pdata)])
    s.phaseB = true ∧ s.eventQ = [10] ∧ s.provQ = [.pdata] ∧
    quiescentOk s .pdata = false ∧ streamOk s .pdata = true := by decide +kernel

-- the peer's A-RELEASE-RQ arrives while P-DATA requests are pending: they are sent in Sta6 (DT-1), then
-- the release request is read (AR-2, Sta8); a request streamed while Evt12 is the event in progress is
-- sent in Sta8 (AR-7); then the release response, and the peer closes
example : let sched : List Step := established ++
      [.env (.local .pdata), .env (.peer (.pdu 12 false)), .env (.local .pdata), .a, .b, .a, .b,
       .a, .env (.local .pdata), .env (.local .pdata), .b, .a, .b, .a, .b,
       .env (.local .releaseRp), .a, .b, .env (.peer .eof), .a, .b]
    runOk initAcceptor sched = true ∧ (run initAcceptor sched).dead = false ∧
    (run initAcceptor sched).fsm = 1 ∧ (run initAcceptor sched).kill = true ∧
    ((run initAcceptor sched).log.map (fun d => (d.evt, d.state))).reverse =
      [(5, 1), (6, 2), (7, 3), (9, 6), (9, 6), (12, 6), (9, 8), (9, 8), (14, 8), (17, 13)] := by decide +kernel

-- requestor side, a send failure in the middle of a stream: DT-1 queues Evt17, further requests are still
-- streamed (terminator-led event queue), AA-4 stops the reactor with requests left over
example : let sched : List Step :=
      [.env (.local .assocRq), .a, .b, .a, .b, .env (.peer (.pdu 3 false)), .a, .b,
       .env (.local .pdata), .env (.local .pdata), .env .breakConn, .a, .b,
       .env (.local .pdata), .a, .env (.local .pdata), .b, .a, .b]
    runOk initRequestor sched = true ∧ (run initRequestor sched).dead = false ∧
    (run initRequestor sched).kill = true ∧ (run initRequestor sched).fsm = 1 ∧
    (run initRequestor sched).provQ = [.pdata, .pdata, .pdata] := by decide +kernel

/-- **A reactor that serves both event sources in one iteration dies on an admissible streamed
schedule.**  `stepBoth` (Model/DulBoth.lean) is `Dul.step` except that phase A peeks the provider queue
AND reads the transport.  Three streamed P-DATA requests with two P-DATA-TF PDUs of the peer in the inbox:
every iteration then queues up to two events but dispatches one, phase A keeps peeking the *same* pending
request, so more Evt9 are queued than there are requests; when the provider queue has drained a surplus
Evt9 is dispatched and DT-1's `to_provider_queue.get(False)` raises `queue.Empty` — the thread dies.  The
schedule satisfies the hypothesis of `C05_defined_partial`, and the real reactor (`Dul.step`) survives it. -/
theorem C05_neg_stream_both_sources :
    let sched : List Step := established ++
      [.env (.local .pdata), .env (.local .pdata), .env (.local .pdata),
       .env (.peer (.pdu 10 false)), .env (.peer (.pdu 10 false)),
       .a, .b, .a, .b, .a, .b, .a, .b, .a, .b, .a, .b, .a, .b]
    runOk initAcceptor sched = true ∧
    (run initAcceptor sched).dead = false ∧
    ((run initAcceptor sched).log.map (·.evt)).reverse = [5, 6, 7, 9, 9, 9, 10, 10] ∧
    (runBoth initAcceptor sched).dead = true ∧
    ((runBoth initAcceptor sched).log.head?.map (fun d => (d.evt, d.state, d.action, d.ok))) =
      some (9, 6, some .DT_1, false) ∧
    (runBoth initAcceptor sched).provQ = [] := by decide +kernel

/-- outside streaming the two reactors agree on that prefix: the difference is exactly the iteration in
which a primitive is pending and the transport is readable -/
theorem C05_stream_both_agree_when_one_source :
    let sched : List Step := established ++
      [.env (.local .pdata), .a, .b, .env (.peer (.pdu 10 false)), .a, .b, .env (.local .pdata), .a, .b]
    (runBoth initAcceptor sched).log = (run initAcceptor sched).log ∧
    (runBoth initAcceptor sched).dead = false := by decide +kernel

end PynetVerif
