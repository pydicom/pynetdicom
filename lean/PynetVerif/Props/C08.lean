import PynetVerif.Gen.Timeouts
/-!
C08 — no peer behaviour keeps pynetdicom blocked past its configured timeouts.

partial.  Proved: the blocking structure of a PDU read.  With a socket timeout `t`, every
`AssociationSocket.recv(need)` returns or raises, whatever the peer does (silence, stall part-way,
dribble), after at most `(#chunks + 1) · t` ticks; with no timeout a peer that stalls part-way
through the requested bytes blocks the read for ever; and the timeout the code gives its
PDU-reading sockets (regenerated from transport.py on every run) is the network timeout for both
roles.  Observed, not proved: real time, the other waits (ACSE/DIMSE queue waits, ARTIM, idle
timer, `kill()`), and that threads and sockets are released — the check runs real associations
against a peer that stalls at generated cut points of every protocol phase.
Honest limit visible in the bound: a peer that dribbles one byte every `t − ε` keeps a read of
`need` bytes busy for up to `need · t` — bounded, but not by one timeout.
-/
namespace PynetVerif
open Timeouts

/-- with a socket timeout every read returns or raises, for every peer, and within
`(number of chunks + 1) · t` ticks of waiting beyond `elapsed` -/
theorem C08_recv_bounded (t : Nat) (tail : Tail) : ∀ (chunks : List (Nat × Bytes)) (need : Nat) (acc : Bytes) (el : Nat),
    (recvN (some t) tail chunks need acc el).returns = true ∧
    (recvN (some t) tail chunks need acc el).elapsed ≤ el + (chunks.length + 1) * t := by
  intro chunks
  induction chunks with
  | nil =>
    intro need acc el
    unfold recvN
    by_cases h : need = 0
    · simp [h, Res.returns, Res.elapsed]
    · cases tail <;> simp [h, Res.returns, Res.elapsed]
  | cons c rest ih =>
    obtain ⟨d, b⟩ := c
    intro need acc el
    unfold recvN
    by_cases h : need = 0
    · simp [h, Res.returns, Res.elapsed]
    · -- one more chunk, one more `t` in the bound: a wait of `d ≤ t`, or the timeout itself
      simp only [h, ↓reduceIte, List.length_cons, Nat.succ_mul (rest.length + 1) t]
      split
      · simp only [Res.returns, Res.elapsed, true_and]
        omega
      · obtain ⟨h1, h2⟩ := ih (need - min need b.length) (acc ++ b.take need) (el + d)
        exact ⟨h1, by omega⟩

/-- a stalling peer that has sent too little, with and without a timeout; with one the read raises at
the stall or at an earlier gap longer than the timeout -/
theorem recvN_stall_short (to : Option Nat) (chunks : List (Nat × Bytes)) (need : Nat) (acc : Bytes) (el : Nat)
    (h : (chunks.map (fun c => c.2.length)).sum < need) :
    match to with
    | none => recvN none .stall chunks need acc el = .blocked
    | some t => ∃ e, recvN (some t) .stall chunks need acc el = .timedOut e := by
  induction chunks generalizing need acc el with
  | nil =>
    have hn : need ≠ 0 := by simp at h; omega
    cases to <;> simp [recvN, hn]
  | cons c rest ih =>
    obtain ⟨d, b⟩ := c
    simp only [List.map_cons, List.sum_cons] at h
    have hn : need ≠ 0 := by omega
    have := ih (need - min need b.length) (acc ++ b.take need) (el + d) (by omega)
    cases to with
    | none => simpa only [recvN, hn, if_false] using this
    | some t =>
      simp only [recvN, hn, if_false]
      split
      · exact ⟨_, rfl⟩
      · exact this

/-- without a socket timeout, a peer that goes silent before delivering the requested bytes (and
keeps the connection open) blocks the read for ever -/
theorem C08_recv_unbounded_neg : ∀ (chunks : List (Nat × Bytes)) (need : Nat) (acc : Bytes) (el : Nat),
    (chunks.map (fun c => c.2.length)).sum < need →
    recvN none .stall chunks need acc el = .blocked :=
  recvN_stall_short none

/-- a stall longer than the timeout ends the read with an exception (→ Evt17, connection closed),
never with a truncated result -/
theorem C08_stall_raises (t : Nat) (chunks : List (Nat × Bytes)) (need : Nat) (acc : Bytes) (el : Nat)
    (h : (chunks.map (fun c => c.2.length)).sum < need) (hd : ∀ c ∈ chunks, c.1 ≤ t) :
    ∃ e, recvN (some t) .stall chunks need acc el = .timedOut e := by
  -- `hd` is not needed: a gap longer than the timeout makes the read raise even earlier
  have _ := hd
  exact recvN_stall_short (some t) chunks need acc el h

/-- the sockets pynetdicom reads PDUs from get the network timeout, in both roles, and so does the
accepted socket on which a TLS server performs the handshake (whose reads are blocking reads of the
same socket: `recvN` applies to them as it does to PDU reads) — regenerated from transport.py on
every run -/
theorem C08_config : Gen.Timeouts.requestorReadTimeout = .networkTimeout ∧
    Gen.Timeouts.acceptorReadTimeout = .networkTimeout ∧
    Gen.Timeouts.tlsHandshakeTimeout = .networkTimeout := by decide

-- non-vacuity: a peer that sends 3 of 6 header bytes and stalls
example : recvN (some 5) .stall [(1, [1, 0, 0])] 6 [] 0 = .timedOut 6 ∧
    recvN none .stall [(1, [1, 0, 0])] 6 [] 0 = .blocked ∧
    recvN (some 5) .eof [(1, [1, 0, 0])] 6 [] 0 = .ok [1, 0, 0] 1 := by decide

end PynetVerif
