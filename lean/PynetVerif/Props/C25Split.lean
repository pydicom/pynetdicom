import PynetVerif.Props.C25
import PynetVerif.Gen.Part10
/-!
C25, chunked SEND — where `split_dataset` puts the start of the data set.

For every 128-byte preamble, every File Meta group made of well-formed Explicit-VR-LE elements
of group 0002 (any number of them, with or without a group-length element, whatever that
element's VALUE is) and every data set that may follow, the offset is the end of the meta group,
so the bytes `encode_msg` reads from the file are exactly the data set.  The statement is about
the model `Part10.split` of pydicom's element walk; the tie to the real `split_dataset` is the
differential run of the C25 check over generated well-formed and malformed files.
-/
namespace PynetVerif
open Part10

namespace Part10

/-- what the proofs need from the two tables (true of the regenerated ones: `C25_split_tables`) -/
structure Tables.Ok (t : Tables) : Prop where
  upper : ∀ v ∈ t.known, isUpper v.1 = true ∧ isUpper v.2 = true
  sub : ∀ v ∈ t.long, v ∈ t.known

theorem decideImplicit_elem (t : Tables) (ht : t.Ok) (e : Elem) (hwf : e.wf t) (tail : Bytes) :
    decideImplicit (encElem t e ++ tail) = false := by
  obtain ⟨h1, h2⟩ := ht.upper e.vr hwf.1
  unfold encElem
  split <;> simp [decideImplicit, h1, h2]

end Part10

/-- the regenerated tables have what the proofs need: every two-byte VR pydicom knows is two
capital letters, and the 32-bit-length VRs are among them -/
theorem C25_split_tables : Gen.Part10.tables.Ok :=
  ⟨by decide, by decide⟩

/-- `split_dataset` still has the shape the model was written for: `read_preamble(fp, False)`,
then `read_dataset` as Explicit VR Little Endian stopped by `tag.group != 2`, then `fp.tell()`;
`send_c_store` hands that offset on unchanged; pydicom's two defaults are the assumed ones. -/
theorem C25_split_code :
    Gen.Part10.opened = "open(path, 'rb')" ∧
    Gen.Part10.body = [
      "call read_preamble(fp, False)",
      "assign file_meta = read_dataset(fp, is_implicit_VR=False, is_little_endian=True, stop_when=_not_group_0002)",
      "return (file_meta, fp.tell())"] ∧
    Gen.Part10.outside = [] ∧
    Gen.Part10.nested = [("_not_group_0002", ["tag", "VR", "length"], ["tag.group != 2"])] ∧
    Gen.Part10.sendUses = ["file_meta, offset = split_dataset(fpath)", "req._dataset_path = (fpath, offset)"] ∧
    Gen.Part10.assumeImplicitSwitch = true ∧ Gen.Part10.validationWarns = true :=
  ⟨rfl, rfl, rfl, rfl, rfl, rfl, rfl⟩

/-- **The offset is the end of the File Meta group.** -/
theorem C25_split_offset (t : Tables) (ht : t.Ok) (pre : Bytes) (hpre : pre.length = 128)
    (es : List Elem) (hwf : ∀ e ∈ es, e.wf t) (ds : Bytes) (hds : dsStartOk t ds) :
    split t (pre ++ magic ++ encMeta t es ++ ds) = .ok (132 + (encMeta t es).length) := by
  rw [List.append_assoc, split_prefix t pre hpre]
  cases es with
  | nil => exact walk_ds t _ ds hds _ 132 (Nat.succ_pos _)
  | cons e es =>
    have hi : decideImplicit (encMeta t (e :: es) ++ ds) = false := by
      rw [encMeta_cons, List.append_assoc]
      exact decideImplicit_elem t ht e (hwf e (by simp)) _
    -- an element takes at least 8 bytes, so the fuel covers one iteration for each and one more
    have hge := encMeta_length_ge t (e :: es)
    rw [hi, walk_meta t _ hwf ds _ 132 (by rw [List.length_append]; omega)]
    exact walk_ds t false ds hds _ _ (by rw [List.length_append]; omega)

/-- … so the bytes chunked SEND reads from the file are exactly the data set -/
theorem C25_split_send (t : Tables) (ht : t.Ok) (pre : Bytes) (hpre : pre.length = 128)
    (es : List Elem) (hwf : ∀ e ∈ es, e.wf t) (ds : Bytes) (hds : dsStartOk t ds) :
    sendBytes t (pre ++ magic ++ encMeta t es ++ ds) = some ds := by
  unfold sendBytes
  rw [C25_split_offset t ht pre hpre es hwf ds hds]
  simp only
  congr 1
  exact List.drop_left' (by simp only [List.length_append, hpre, magic, List.length_cons, List.length_nil])

/-- the fuel of the model's loop never runs out: with any larger amount the result is the same -/
theorem C25_split_total (t : Tables) (file : Bytes) (extra : Nat) :
    split t file =
      (if (file.drop 128).take 4 ≠ magic then .invalidDicom
       else walk t (decideImplicit (file.drop 132)) ((file.drop 132).length + 1 + extra) 132 (file.drop 132)) := by
  unfold split
  split
  · rfl
  · exact walk_fuel t _ _ _ _ _ (by omega) (by omega)

/-- without the "DICM" prefix at byte 128 nothing is sent: `InvalidDicomError` -/
theorem C25_split_no_prefix (t : Tables) (file : Bytes) (h : (file.drop 128).take 4 ≠ magic) :
    split t file = .invalidDicom ∧ sendBytes t file = none := by
  simp [split, sendBytes, h]

/-- the group-length element `(0002,0000) UL 4` carrying the value `n` -/
def groupLength (n : Nat) : Elem := ⟨(0, 0), (0x55, 0x4C), Deliver.le32 n⟩

theorem ul_known_short :
    ((0x55, 0x4C) : VR) ∈ Gen.Part10.tables.known ∧ ((0x55, 0x4C) : VR) ∉ Gen.Part10.tables.long := by decide

theorem fileMeta_eq (es : List Elem) :
    Deliver.fileMeta (encMeta Gen.Part10.tables es) =
      encMeta Gen.Part10.tables (groupLength (encMeta Gen.Part10.tables es).length :: es) := by
  simp [Deliver.fileMeta, encMeta_cons, encElem, groupLength, ul_known_short.2, Deliver.le32, b0, b1]

/-- **Store and forward**: the file a chunked RECEIVE wrote (preamble, "DICM", group length + the
meta elements, then the fragments as they arrived) is split by a later chunked SEND exactly at the
first received byte — and there the element walk of `split_dataset` and the group-length
arithmetic of `Event.encoded_dataset` agree. -/
theorem C25_split_received_file (es : List Elem) (hwf : ∀ e ∈ es, e.wf Gen.Part10.tables)
    (hlen : (encMeta Gen.Part10.tables es).length < 4294967296)
    (frags : List Bytes) (hds : dsStartOk Gen.Part10.tables frags.flatten) (f : Bytes)
    (hf : (Deliver.store .chunked (encMeta Gen.Part10.tables es) frags).file = some f) :
    sendBytes Gen.Part10.tables f = some frags.flatten ∧ Deliver.chunkedSendBytes f = frags.flatten := by
  simp only [Deliver.store, Option.some.injEq] at hf
  subst hf
  refine ⟨?_, C25_chunked_send _ _ hlen⟩
  have hp : Deliver.preamble = List.replicate 128 0 ++ magic := rfl
  rw [fileMeta_eq, hp]
  apply C25_split_send Gen.Part10.tables C25_split_tables _ (by simp) _ _ _ hds
  intro e he
  rcases List.mem_cons.mp he with rfl | he
  · exact ⟨ul_known_short.1, by simp [groupLength, Deliver.le32, ul_known_short.2]⟩
  · exact hwf e he

/-- the group-length VALUE plays no part in `split_dataset` (it walks the elements): on a file whose
(0002,0000) says 0 instead of 10 the walk still finds the data set, while the arithmetic on that
value — what `Event.encoded_dataset(False)` does with a file of its own making — would not -/
theorem C25_split_group_length_unused :
    let file := List.replicate 128 0 ++ magic ++
      [2, 0, 0, 0, 0x55, 0x4C, 4, 0, 0, 0, 0, 0] ++ [2, 0, 0x10, 0, 0x55, 0x49, 2, 0, 0x31, 0] ++
      [8, 0, 0x16, 0, 0x55, 0x49, 0, 0]
    sendBytes Gen.Part10.tables file = some [8, 0, 0x16, 0, 0x55, 0x49, 0, 0] ∧
    Deliver.chunkedSendBytes file ≠ [8, 0, 0x16, 0, 0x55, 0x49, 0, 0] := by decide +kernel

/-- the hypothesis on the data set cannot be dropped: a tail shorter than one element header is
read to the end of the file and nothing of it is sent -/
theorem C25_split_short_tail_neg :
    sendBytes Gen.Part10.tables (List.replicate 128 0 ++ magic ++ [2, 0, 0x10, 0, 0x55, 0x49, 0, 0] ++ [8, 0, 0x16]) = some [] := by
  decide +kernel

/-- … nor the one on the elements: an element of group 0002 with a two-letter code pydicom does not
know and bytes that are not its length makes the walk overshoot -/
theorem C25_split_unknown_vr_neg :
    split Gen.Part10.tables (List.replicate 128 0 ++ magic ++ [2, 0, 0x10, 0, 0x5A, 0x5A, 9, 0] ++ [8, 0, 0x16, 0, 0x55, 0x49, 0, 0])
      = .ok 148 := by decide +kernel

-- the hypotheses are satisfiable by a non-trivial file: two elements (one with a 32-bit length), an
-- implicit-VR data set
example : (∀ e ∈ [Elem.mk (0x10, 0) (0x55, 0x49) [0x31, 0], Elem.mk (1, 0) (0x4F, 0x42) [0, 1]], e.wf Gen.Part10.tables) ∧
    dsStartOk Gen.Part10.tables [8, 0, 0x16, 0, 0x1A, 0, 0, 0, 1, 2] := by
  refine ⟨?_, by unfold dsStartOk; exact ⟨by decide, by decide, fun h => absurd h (by decide)⟩⟩
  intro e he
  simp only [List.mem_cons, List.not_mem_nil, or_false] at he
  rcases he with rfl | rfl <;> exact ⟨by decide, by decide⟩

example : split Gen.Part10.tables (List.replicate 128 7 ++ magic ++
    encMeta Gen.Part10.tables [Elem.mk (0x10, 0) (0x55, 0x49) [0x31, 0], Elem.mk (1, 0) (0x4F, 0x42) [0, 1]] ++
    [8, 0, 0x16, 0, 0x1A, 0, 0, 0, 1, 2]) = .ok 156 := by decide +kernel

end PynetVerif
