import PynetVerif.Lemmas.Framing
import PynetVerif.Model.Idle
import PynetVerif.Gen.Timeouts
/-!
C03 — PDU framing is independent of how TCP splits the byte stream.

The stream is the bytes the peer sends before closing; the adversary is the
read oracle `ks` (how many bytes each `socket.recv` returns, or a timeout).
Inter-segment gaps below the socket timeout are invisible to a blocking
`recv` and therefore do not appear in the model at all.
-/
namespace PynetVerif
open Framing

/-- (type, reserved byte, body) of a PDU on the wire -/
abbrev PduSpec := UInt8 × UInt8 × Bytes

def WellFramed (p : PduSpec) : Prop := validType p.1 = true ∧ p.2.2.length < 4294967296
def wirePdu (p : PduSpec) : Bytes := mkPdu p.1 p.2.1 p.2.2
def wire : List PduSpec → Bytes
  | [] => []
  | p :: ps => wirePdu p ++ wire ps

/-- what may follow the last complete PDU before the peer closes: nothing, or a strict prefix of a PDU -/
def Truncation (pre : Bytes) : Prop :=
  pre = [] ∨ ∃ p suf, WellFramed p ∧ suf ≠ [] ∧ pre ++ suf = wirePdu p

/-- The receive loop returns exactly the requested bytes (or all that is left), for every sequence of
read sizes the kernel may choose. -/
theorem C03_recv (rest : Bytes) (ks : List RR) (n : Nat) (h : NoTimeout ks) :
    ∃ ks', NoTimeout ks' ∧ recv rest ks n = some (rest.take n, rest.drop n, ks') :=
  recv_take rest ks n h

/-- **Segmentation independence and mid-PDU close.** For every sequence of well-framed PDUs, every
truncated tail and every read oracle without timeouts, the receiver sees exactly those PDUs, in
order, then `closed` — never a truncated PDU. (`pre = []` is the plain chunking statement.) -/
theorem C03_chunking_midclose (ps : List PduSpec) (hp : ∀ p ∈ ps, WellFramed p)
    (pre : Bytes) (hpre : Truncation pre) :
    ∀ (ks : List RR) (fuel : Nat), NoTimeout ks → ps.length + 1 ≤ fuel →
    frames fuel (wire ps ++ pre) ks = ps.map (fun p => Frame.pdu (wirePdu p)) ++ [Frame.closed] := by
  induction ps with
  | nil =>
    intro ks fuel hnt hf
    obtain ⟨f, rfl⟩ : ∃ f, fuel = f + 1 := ⟨fuel - 1, by simp at hf; omega⟩
    have hc : (readPdu pre ks).1 = .closed := by
      rcases hpre with h | ⟨p, suf, hw, hs, he⟩
      · subst h; exact readPdu_short ks (by decide)
      · exact readPdu_strict_prefix p.1 p.2.1 p.2.2 pre suf ks hw.1 hw.2 hs he
    rw [wire, List.nil_append, frames_succ, if_pos hc]
    rfl
  | cons p ps ih =>
    intro ks fuel hnt hf
    obtain ⟨f, rfl⟩ : ∃ f, fuel = f + 1 := ⟨fuel - 1, by simp at hf; omega⟩
    have hw := hp p (by simp)
    obtain ⟨ks', hnt', hr⟩ := readPdu_mk p.1 p.2.1 p.2.2 (wire ps ++ pre) ks hw.1 hw.2 hnt
    have hwire : wire (p :: ps) ++ pre = mkPdu p.1 p.2.1 p.2.2 ++ (wire ps ++ pre) := by
      simp [wire, wirePdu, List.append_assoc]
    rw [hwire]
    simp only [frames, hr, List.map_cons, List.cons_append]
    have := ih (fun q hq => hp q (by simp [hq])) ks' f hnt' (by simp at hf ⊢; omega)
    rw [this]; rfl

/-- **Never a truncated PDU, for ANY oracle (timeouts and errors included).** Every PDU handed to
the decoder is completely framed (its length field equals the length of its body), the frames
account for a prefix of the stream in order, and an unrecognised frame is a 6-byte header whose
type is not 1..7. -/
theorem C03_frames_sound : ∀ (fuel : Nat) (rest : Bytes) (ks : List RR),
    (∃ tail, rest = ((frames fuel rest ks).map Frame.bytes).flatten ++ tail) ∧
    ∀ f ∈ frames fuel rest ks, match f with
      | .pdu b => ∃ t r body, validType t = true ∧ body.length < 4294967296 ∧ b = mkPdu t r body
      | .unrecognised h => ∃ t r a b c d, h = [t, r, a, b, c, d] ∧ validType t = false
      | .closed => True := by
  intro fuel rest ks
  induction fuel generalizing rest ks with
  | zero => exact ⟨⟨rest, rfl⟩, nofun⟩
  | succ fuel ih =>
    have hs := frames_succ fuel rest ks
    -- name the result of the one `readPdu`: carrying the term through the rest is slow to check
    generalize hr : readPdu rest ks = p at hs
    obtain ⟨f, rest', ks'⟩ := p
    obtain ⟨k1, k2⟩ := readPdu_sound hr
    rw [hs]
    by_cases hc : f = .closed
    · rw [if_pos hc]
      exact ⟨⟨rest, rfl⟩, fun g hg => List.mem_singleton.mp hg ▸ trivial⟩
    · rw [if_neg hc]
      obtain ⟨⟨tail, ht⟩, hall⟩ := ih rest' ks'
      refine ⟨⟨tail, ?_⟩, ?_⟩
      · rw [List.map_cons, List.flatten_cons, List.append_assoc, ← ht]
        exact k1.resolve_left hc
      · intro g hg
        rcases List.mem_cons.mp hg with rfl | hg
        · exact k2  -- `Frame.Sound` is the `match` of the statement
        · exact hall g hg

/-- A read that raises (timeout / OSError) while a PDU is being read yields `closed`:
whatever was read of that PDU is dropped, nothing is delivered for it. -/
theorem C03_timeout_is_closed (rest : Bytes) (ks : List RR) (fuel : Nat) :
    frames (fuel + 1) rest (.timeout :: ks) = [.closed] := by
  simp [frames, readPdu, recv, recvN, pop, recv1]

-- non-vacuity: two well-framed PDUs, a two-byte truncated third, a byte-at-a-time oracle
example : WellFramed (5, 0, [0, 0, 0, 0]) ∧ WellFramed (4, 0, [1, 2, 3]) ∧
    Truncation [7, 0] ∧ NoTimeout [.got 0, .got 0, .got 2, .got 100] := by
  refine ⟨⟨by decide, by decide⟩, ⟨by decide, by decide⟩, Or.inr ⟨(7, 0, [0, 0, 0, 0]), [0, 0, 0, 4, 0, 0, 0, 0], ⟨by decide, by decide⟩, by decide, by decide⟩, ?_⟩
  intro r hr; simp at hr; rcases hr with rfl | rfl | rfl | rfl <;> simp

example : frames 5 (wire [(5, 0, [0, 0, 0, 0]), (4, 0, [1, 2, 3])] ++ [7, 0]) [.got 0, .got 0, .got 2] =
    [.pdu (wirePdu (5, 0, [0, 0, 0, 0])), .pdu (wirePdu (4, 0, [1, 2, 3])), .closed] := by decide

/-- **Every gap below the network timeout is enough**: when the idle timer is restarted for every
chunk received, a PDU sequence cut into chunks in any way, with every inter-chunk gap at most the
network timeout, is never aborted as idle — however long a single PDU takes to arrive in full. -/
theorem C03_gaps_below_timeout (T : Nat) : ∀ (chunks : List (Nat × Bool)), (∀ c ∈ chunks, c.1 ≤ T) →
    Idle.aborted .perChunk T 0 chunks = false := by
  intro chunks
  induction chunks with
  | nil => intro _; rfl
  | cons c rest ih =>
    intro h
    obtain ⟨gap, last⟩ := c
    have hg : gap ≤ T := h (gap, last) (List.mem_cons_self ..)
    have : ¬ (0 + gap > T) := by omega
    simp only [Idle.aborted, this, ↓reduceIte, Bool.or_true, beq_self_eq_true]
    exact ih (fun c hc => h c (List.mem_cons_of_mem _ hc))

/-- the repaired defect, for the record: with a restart per completed PDU only, a PDU arriving in
three chunks 0.7 T apart (every gap below the timeout) is aborted as idle -/
theorem C03_restart_per_pdu_neg :
    Idle.aborted .perPdu 10 0 [(0, false), (7, false), (7, true)] = true ∧
    Idle.aborted .perChunk 10 0 [(0, false), (7, false), (7, true)] = false := by decide

/-- the source restarts the idle timer for every chunk `AssociationSocket.recv` receives
(regenerated from transport.py on every run) -/
theorem C03_code_restarts_per_chunk : Gen.Timeouts.idleRestartPerChunk = true := by decide

end PynetVerif
