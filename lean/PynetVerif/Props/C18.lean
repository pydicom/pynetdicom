import PynetVerif.Gen.Glue
import PynetVerif.Lemmas.Ctx
/-!
C18 — outgoing messages use an accepted presentation context compatible with
their content.

Model: `Model/Ctx.lean` (`getValidContext`, `sendCtx`, `cStoreScp`), tied to
`Association._get_valid_context`, every `send_*` and `_c_store_scp` by
`harness/props/c18.py` (function-level differential run, in-process
`_c_store_scp`, loopback wire tap).

Statements quantify over every accepted set (any list, duplicates and even ids
included), every abstract/transfer syntax, role, context id and flag.
-/
namespace PynetVerif
open Ctx

/-- the transfer-syntax clause: nothing is asked (`''`, then the caller encodes
in the chosen context's syntax), or the syntax is the context's, or conversion
is allowed and both are known uncompressed syntaxes of the same byte order -/
def Ctx.TsOk (ts : Option Ts) (allowConv : Bool) (c : Cx) : Prop :=
  match ts with
  | none => allowConv = true
  | some t => t.uid = c.ts.uid ∨
      (allowConv = true ∧ t.known = true ∧ c.ts.known = true ∧
        t.compressed = false ∧ c.ts.compressed = false ∧ t.little = c.ts.little)

theorem Ctx.tsOk_iff_verdict {ts : Option Ts} {conv : Bool} {c : Cx} :
    TsOk ts conv c ↔ verdict ts c = .ret ∨ (conv = true ∧ verdict ts c = .keep) := by
  rw [verdict_ret_iff, verdict_keep_iff]
  cases ts with
  | none => simp [TsOk]
  | some t => by_cases he : t.uid = c.ts.uid <;> simp [TsOk, he]

/-- **Soundness** of `_get_valid_context`: a returned context is one of the
accepted contexts, has the requested abstract syntax (or is the documented UPS
Push substitution), gives the local side the requested role, and its transfer
syntax is the requested one or a permitted conversion target. -/
theorem C18_sound (acc : List Cx) (ab : Nat) (ts : Option Ts) (role : Option Role)
    (ctxId : Option Nat) (conv : Bool) (c : Cx)
    (h : getValidContext acc ab ts role ctxId conv = some c) :
    c ∈ acc ∧ AbOk ab c ∧ roleOk role c = true ∧ TsOk ts conv c := by
  obtain ⟨hm, hv⟩ := getValidContext_some h
  obtain ⟨hr, hab⟩ := mem_candidates_iff.mp hm
  exact ⟨mem_of_mem_candidates hm, hab.imp And.right fun h => ⟨h.1, h.2.2.2⟩, hr, tsOk_iff_verdict.mpr hv⟩

/-- a context found through a given, accepted `context_id` is that context, unless
the UPS Push fallback substituted (the fallback searches all accepted contexts
whatever `context_id` says) -/
theorem C18_context_id_respected (acc : List Cx) (ab : Nat) (ts : Option Ts) (role : Option Role)
    (k : Nat) (conv : Bool) (c c' : Cx)
    (h : getValidContext acc ab ts role (some k) conv = some c) (hk : lookup acc k = some c')
    (hab : c.ab = ab ∨ ab ≠ upsPush) : c = c' := by
  have hb : base acc (some k) = [c'] := by simp [base, hk]
  rcases (mem_candidates_iff.mp (getValidContext_some h).1).2 with h3 | ⟨h1, h2, -, h4⟩
  · rw [hb] at h3; simpa using h3.1
  · rcases hab with hab | hab
    · -- c.ab = ab = upsPush, yet c is of one of the other UPS classes
      rw [hab, h1] at h4
      exact absurd h4 (by decide)
    · exact absurd h1 hab

/-- no transfer-syntax test raises: the asked syntax is a known transfer syntax and,
unless it is compressed (then only equality is tested), so is every accepted one -/
def Ctx.Known (ts : Option Ts) (acc : List Cx) : Prop :=
  ∀ t, ts = some t → t.known = true ∧ (t.compressed = true ∨ ∀ c ∈ acc, c.ts.known = true)

theorem noRaise_candidates {ts : Option Ts} {acc : List Cx} (hk : Known ts acc) (ab : Nat)
    (role : Option Role) (ctxId : Option Nat) :
    ∀ c ∈ candidates acc ab role ctxId, verdict ts c ≠ .raise := by
  intro c hc hv
  obtain ⟨t, ht, -, h⟩ := verdict_raise_iff.mp hv
  obtain ⟨h1, h2⟩ := hk t ht
  rcases h with h | ⟨h3, h4⟩
  · rw [h1] at h; cases h
  · rcases h2 with h2 | h2
    · rw [h2] at h3; cases h3
    · rw [h2 c (mem_of_mem_candidates hc)] at h4; cases h4

/-- **Exact transfer syntax preferred** (full statement is false on the code, see
`C18_exact_preferred_neg`): when no syntax test raises and some candidate carries
exactly the asked transfer syntax, a context with exactly that syntax is returned —
with or without `allow_conversion`, and even if convertible contexts come first. -/
theorem C18_exact_preferred_partial (acc : List Cx) (ab : Nat) (t : Ts) (role : Option Role)
    (ctxId : Option Nat) (conv : Bool) (hk : Known (some t) acc)
    (hex : ∃ c ∈ candidates acc ab role ctxId, c.ts.uid = t.uid) :
    ∃ r, getValidContext acc ab (some t) role ctxId conv = some r ∧ r.ts.uid = t.uid := by
  obtain ⟨c, hc, hu⟩ := hex
  obtain ⟨r, hr, hv⟩ := (getValidContext_of_noRaise (noRaise_candidates hk ab role ctxId) hc).1
    (verdict_ret_iff.mpr ⟨t, rfl, hu.symm⟩)
  obtain ⟨t', ht', hu'⟩ := verdict_ret_iff.mp hv
  cases ht'; exact ⟨r, hr, hu'.symm⟩

/-- the UPS substitution is only used when no accepted context has the abstract
syntax itself (`send_*` path) -/
theorem C18_abstract_exact_preferred (acc : List Cx) (ab : Nat) (ts : Option Ts) (role : Option Role)
    (conv : Bool) (r : Cx) (h : getValidContext acc ab ts role none conv = some r)
    (hex : ∃ c ∈ acc, c.ab = ab) : r.ab = ab := by
  obtain ⟨c, hc, hab⟩ := hex
  rcases (mem_candidates_iff.mp (getValidContext_some h).1).2 with h3 | h3
  · exact h3.2
  · exact absurd hab (h3.2.1 c ((mem_sortById c acc).mpr hc))

/-- in `send_*` terms (no context id): an accepted context with the asked abstract
syntax, role and exactly the asked transfer syntax exists ⇒ such a context is chosen -/
theorem C18_exact_preferred_send_partial (acc : List Cx) (ab : Nat) (t : Ts) (role : Option Role)
    (conv : Bool) (hk : Known (some t) acc)
    (hex : ∃ c ∈ acc, c.ab = ab ∧ roleOk role c = true ∧ c.ts.uid = t.uid) :
    ∃ r, getValidContext acc ab (some t) role none conv = some r ∧ r.ts.uid = t.uid ∧ r.ab = ab := by
  obtain ⟨c, hc, hab, hr, hu⟩ := hex
  have hcand : c ∈ candidates acc ab role none :=
    mem_candidates_iff.mpr ⟨hr, Or.inl ⟨(mem_sortById c acc).mpr hc, hab⟩⟩
  obtain ⟨r, h1, h2⟩ := C18_exact_preferred_partial acc ab t role none conv hk ⟨c, hcand, hu⟩
  exact ⟨r, h1, h2, C18_abstract_exact_preferred acc ab _ role conv r h1 ⟨c, hc, hab⟩⟩

/-- the code violates the unrestricted statement: an accepted context whose transfer
syntax UID pydicom does not know (a private syntax without registered encoding),
placed before an exact match, makes `_get_valid_context` raise `ValueError` -/
theorem C18_exact_preferred_neg :
    ∃ (acc : List Cx) (ab : Nat) (t : Ts) (c : Cx), c ∈ acc ∧ c.ab = ab ∧ c.asScu = true ∧
      c.ts.uid = t.uid ∧ t.known = true ∧
      getValidContext acc ab (some t) (some .scu) none true = none :=
  ⟨[⟨1, 10, ⟨100, false, false, false⟩, true, false⟩, ⟨3, 10, ⟨20, true, false, true⟩, true, false⟩],
    10, ⟨20, true, false, true⟩, ⟨3, 10, ⟨20, true, false, true⟩, true, false⟩, by decide⟩

theorem getValidContext_ne_none {acc : List Cx} {ab : Nat} {ts : Option Ts} {role : Option Role}
    {ctxId : Option Nat} {conv : Bool} {c : Cx} (hk : Known ts acc)
    (hc : c ∈ candidates acc ab role ctxId) (hts : TsOk ts conv c) :
    getValidContext acc ab ts role ctxId conv ≠ none := by
  have h := getValidContext_of_noRaise (conv := conv) (noRaise_candidates hk ab role ctxId) hc
  rcases tsOk_iff_verdict.mp hts with hv | ⟨hconv, hv⟩
  · obtain ⟨r, hr, -⟩ := h.1 hv
    simp [hr]
  · exact h.2 hconv hv

/-- **Completeness** (under `Known`; the unrestricted statement fails by the same
witness as above): if an accepted context has the asked abstract syntax and role
and a transfer syntax that is equal or a permitted conversion target, a context is
found (`send_*` path, no context id). -/
theorem C18_complete_partial (acc : List Cx) (ab : Nat) (ts : Option Ts) (role : Option Role)
    (conv : Bool) (hk : Known ts acc)
    (hex : ∃ c ∈ acc, c.ab = ab ∧ roleOk role c = true ∧ TsOk ts conv c) :
    getValidContext acc ab ts role none conv ≠ none := by
  obtain ⟨c, hc, hab, hr, hts⟩ := hex
  exact getValidContext_ne_none hk
    (mem_candidates_iff.mpr ⟨hr, Or.inl ⟨(mem_sortById c acc).mpr hc, hab⟩⟩) hts

/-- completeness of the UPS Push substitution: no accepted context is UPS Push, one
of the other four UPS classes is accepted with the role ⇒ it is found -/
theorem C18_complete_ups_partial (acc : List Cx) (ts : Option Ts) (role : Option Role)
    (conv : Bool) (hk : Known ts acc) (hno : ∀ c ∈ acc, c.ab ≠ upsPush)
    (hex : ∃ c ∈ acc, isUpsOther c.ab = true ∧ roleOk role c = true ∧ TsOk ts conv c) :
    getValidContext acc upsPush ts role none conv ≠ none := by
  obtain ⟨c, hc, hu, hr, hts⟩ := hex
  exact getValidContext_ne_none hk
    (mem_candidates_iff.mpr ⟨hr, Or.inr ⟨rfl, fun b hb => hno b (mem_base hb), hc, hu⟩⟩) hts

/-- every `send_*` request that selects its context through `_get_valid_context`
(all but `send_c_cancel(context_id=…)`) is handed to `dimse.send_msg` with the id
of an accepted context that satisfies the clauses of the method's own query. -/
theorem C18_send_accepted_partial (acc : List Cx) (op : SendOp) (k : Nat)
    (hop : ∀ j, op ≠ .cCancelId j) (h : sendCtx acc op = some k) :
    ∃ c ab ts role conv, op.query = some (ab, ts, role, conv) ∧ c ∈ acc ∧ c.id = k ∧
      AbOk ab c ∧ roleOk role c = true ∧ TsOk ts conv c := by
  have hsel : ∃ c, sendSelect acc op = some c ∧ c.id = k := by
    cases op with
    | cCancelId j => exact absurd rfl (hop j)
    | _ =>
      simp only [sendCtx, Option.map_eq_some_iff] at h
      exact h
  obtain ⟨c, hc, hid⟩ := hsel
  unfold sendSelect at hc
  split at hc
  · cases hc
  cases hq : op.query with
  | none => rw [hq] at hc; cases hc
  | some q =>
    obtain ⟨ab, ts, role, conv⟩ := q
    rw [hq] at hc
    obtain ⟨h1, h2, h3, h4⟩ := C18_sound acc ab ts role none conv c hc
    exact ⟨c, ab, ts, role, conv, rfl, h1, hid, h2, h3, h4⟩

/-- all user-level senders require the SCU role except N-EVENT-REPORT (no role
filter) — the role each method asks for, as a checked table -/
theorem C18_send_roles :
    (∀ (op : SendOp) ab ts role conv, op.query = some (ab, ts, role, conv) →
      (role = some Role.scu ∨ (role = none ∧ ∃ c, op = SendOp.nEventReport c))) ∧
    (∀ (op : SendOp) ab ts role conv, op.query = some (ab, ts, role, conv) →
      (ts = none ∧ conv = true) ∨ ∃ s t ch, op = SendOp.cStore s t ch ∧ ts = some t ∧ conv = !ch) := by
  -- both halves read the rows of `SendOp.query`
  constructor
  all_goals
    intro op ab ts role conv h
    cases op <;> simp only [SendOp.query, Option.some.injEq, Prod.mk.injEq, reduceCtorEq] at h
    all_goals
      obtain ⟨-, rfl, rfl, rfl⟩ := h
      simp

/-- `send_c_store`'s consistency step: whenever the data set's own encoding is known
and the call does not fail, the transfer syntax the context is selected for has
exactly the data set's (VR, byte order) encoding — the file meta's syntax is only
trusted when it agrees. -/
theorem C18_store_query_matches_dataset (tsEnc : Bool × Bool) (i l : Bool) (e : Bool × Bool)
    (h : (storeEffTs tsEnc (some i, some l)).enc tsEnc = some e) : e = (i, l) := by
  obtain ⟨a, b⟩ := tsEnc
  cases a <;> cases b <;> cases i <;> cases l <;> simp [storeEffTs, EffTs.enc] at h <;> simp [h]

/-- `send_c_cancel(msg_id, context_id=k)` sends on `k` without any check: a DIMSE
message on a context that was not accepted. -/
theorem C18_send_cancel_id_neg :
    ∃ (acc : List Cx) (k : Nat), sendCtx acc (.cCancelId k) = some k ∧ k ∉ ids acc :=
  ⟨[⟨1, 10, ⟨20, true, false, true⟩, true, false⟩], 99, by decide⟩

/-- a response to a C-STORE sub-operation goes on a context that was not accepted exactly when
the request's id is accepted, no valid context was found and context id 1 is not accepted
(`g`: whether the code first rejects unaccepted ids, `Gen.Glue.subStoreRejectsUnaccepted`; with
`g = true` a request on an unaccepted id gets no response at all, C19_substore) -/
theorem C18_substore_rsp_partial (g : Bool) (acc : List Cx) (reqCtx ab k : Nat)
    (hk : (cStoreScp g acc reqCtx ab).rspCtx = some k) :
    k ∈ ids acc ↔ ((cStoreScp g acc reqCtx ab).handler ≠ none ∨ 1 ∈ ids acc) := by
  rcases cStoreScp_cases g acc reqCtx ab with ⟨-, -, h⟩ | ⟨-, h⟩ | ⟨c, hc, h⟩ <;> rw [h] at hk ⊢
  · cases hk
  · cases hk; simp
  · cases hk
    have : c.id ∈ ids acc := List.mem_map.mpr ⟨c, (C18_sound _ _ _ _ _ _ _ hc).1, rfl⟩
    simp [this]

/-- when the handler path is taken, the response travels on the accepted context
the handler saw, which has the request's SOP class and the SCP role -/
theorem C18_substore_handler_ctx (g : Bool) (acc : List Cx) (reqCtx ab : Nat) (c : Cx)
    (h : (cStoreScp g acc reqCtx ab).handler = some c) :
    c ∈ acc ∧ AbOk ab c ∧ c.asScp = true ∧ (cStoreScp g acc reqCtx ab).rspCtx = some c.id ∧
      (cStoreScp g acc reqCtx ab).refused = false := by
  rcases cStoreScp_cases g acc reqCtx ab with ⟨-, -, e⟩ | ⟨-, e⟩ | ⟨c', hc, e⟩ <;> rw [e] at h ⊢
  · cases h
  · cases h
  · cases h
    obtain ⟨h1, h2, h3, -⟩ := C18_sound _ _ _ _ _ _ _ hc
    exact ⟨h1, h2, h3, rfl, rfl⟩

/-- the code violates the property here (with or without the test on the id): context 3 alone is
accepted (for CT, SCP role), a C-STORE sub-operation for another SOP class arrives on context 3, and
the 0x0122 response is sent on context 1, which was never accepted -/
theorem C18_substore_rsp_neg (g : Bool) :
    ∃ (acc : List Cx) (reqCtx ab : Nat), reqCtx ∈ ids acc ∧
      (cStoreScp g acc reqCtx ab).rspCtx = some 1 ∧ 1 ∉ ids acc :=
  ⟨[⟨3, 10, ⟨20, true, false, true⟩, false, true⟩], 3, 11, by cases g <;> decide⟩

/-- and when context 1 *is* accepted, the refusal still travels on a context whose
abstract syntax is not the message's SOP class (and that may lack the SCP role) -/
theorem C18_substore_rsp_wrong_context_neg (g : Bool) :
    ∃ (acc : List Cx) (reqCtx ab : Nat) (c1 : Cx), lookup acc 1 = some c1 ∧ reqCtx ∈ ids acc ∧
      (cStoreScp g acc reqCtx ab).rspCtx = some 1 ∧ c1.ab ≠ ab ∧ c1.asScp = false :=
  ⟨[⟨1, 6, ⟨20, true, false, true⟩, true, false⟩, ⟨3, 10, ⟨20, true, false, true⟩, false, true⟩],
    3, 11, ⟨1, 6, ⟨20, true, false, true⟩, true, false⟩, by cases g <;> decide⟩

example :
    let le : Ts := ⟨20, true, false, true⟩      -- Implicit VR LE
    let ex : Ts := ⟨21, true, false, true⟩      -- Explicit VR LE
    let be : Ts := ⟨22, true, false, false⟩     -- Explicit VR BE
    let jp : Ts := ⟨23, true, true, true⟩       -- JPEG baseline
    let acc : List Cx := [⟨5, 10, jp, true, false⟩, ⟨1, 10, be, true, false⟩, ⟨3, 10, ex, true, true⟩,
      ⟨7, upsWatch, le, true, false⟩, ⟨9, 11, le, false, true⟩]
    -- exact match wins over the earlier convertible context
    (getValidContext acc 10 (some ex) (some .scu) none true).map (·.id) = some 3 ∧
    -- conversion: LE → the first uncompressed LE context; BE is skipped, JPEG is skipped
    (getValidContext acc 10 (some le) (some .scu) none true).map (·.id) = some 3 ∧
    -- no conversion allowed
    getValidContext acc 10 (some le) (some .scu) none false = none ∧
    -- compressed needs an exact match
    (getValidContext acc 10 (some jp) (some .scu) none true).map (·.id) = some 5 ∧
    -- no syntax asked: first by context id
    (getValidContext acc 10 none (some .scu) none true).map (·.id) = some 1 ∧
    -- role filter
    (getValidContext acc 10 none (some .scp) none true).map (·.id) = some 3 ∧
    getValidContext acc 11 none (some .scu) none true = none ∧
    -- UPS Push substitution
    (getValidContext acc upsPush none (some .scu) none true).map (·.id) = some 7 ∧
    Known (some ex) acc ∧
    (cStoreScp true acc 9 11).handler.map (·.id) = some 9 ∧
    -- an unaccepted id: aborted by the code as it is, fallen back to all accepted contexts before the repair
    (cStoreScp true acc 11 11).aborted = true ∧
    (cStoreScp false acc 11 11).handler.map (·.id) = some 9 := by
  refine ⟨by decide, by decide, by decide, by decide, by decide, by decide, by decide, by decide, ?_,
    by decide, by decide, by decide⟩
  intro t ht
  cases ht
  exact ⟨rfl, Or.inr (by decide)⟩

/-- every data set / identifier / attribute list the SCU calls send is encoded with the three flags of the
ACCEPTED CONTEXT's transfer syntax (one variable, last assigned `context.transfer_syntax[0]`) — never with the
data set's own label.  Syntax fact regenerated from association.py on every run. -/
theorem C18_encoded_in_context_syntax :
    Gen.Glue.encodeSites.all (·.2) = true ∧ Gen.Glue.encodeSites.length = 8 ∧
    ("send_c_store", true) ∈ Gen.Glue.encodeSites := by decide

end PynetVerif
