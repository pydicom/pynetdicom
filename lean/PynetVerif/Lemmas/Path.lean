import PynetVerif.Model.Path
import PynetVerif.Lemmas.Lists
/-! Joining a sanitised name to a directory adds exactly one component: `split` is core's
`List.splitOn`, the sanitiser removes '/' and NUL, and `resolve` of the join walks `dir`, then
the name.  The file name storescp builds, from its prefix table, is such a name. -/
namespace PynetVerif.Path

theorem split_eq_splitOn (p : Str) : split p = p.splitOn '/' :=
  eq_splitOn '/' split rfl (fun _ cs => by rw [split]; cases split cs <;> rfl) p

theorem split_append_sep (a b : Str) : split (a ++ '/' :: b) = split a ++ split b := by
  simp only [split_eq_splitOn, List.splitOn_append_cons_self]

theorem split_noSep (n : Str) (h : '/' ∉ n) : split n = [n] := by
  rw [split_eq_splitOn, List.splitOn_eq_singleton h]

theorem split_nil : split [] = [[]] := rfl

theorem head?_append_of_ne_nil {a b : Str} (h : a ≠ []) : (a ++ b).head? = a.head? := by
  cases a with
  | nil => exact absurd rfl h
  | cons x xs => rfl

theorem sanitise_length (d : Char → Bool) (s : Str) : (sanitise d s).length = s.length := by
  simp [sanitise]

theorem not_mem_sanitise {d : Char → Bool} {c : Char} (hd : keep d c = false) (hc : c ≠ '_') (s : Str) :
    c ∉ sanitise d s := by
  simp only [sanitise, List.mem_map, not_exists, not_and]
  intro x _ hx
  split at hx
  · subst hx; simp_all
  · exact hc hx.symm

theorem sanitise_safe {d : Char → Bool} (hsep : d '/' = false) (hnul : d nul = false) (s : Str) :
    '/' ∉ sanitise d s ∧ nul ∉ sanitise d s :=
  ⟨not_mem_sanitise (by simp [keep, hsep]) (by decide) s,
    not_mem_sanitise (by simp [keep, hnul]; decide) (by decide) s⟩

/-- the sanitiser produces a '.' only from a '.', so a string of dots comes only from itself -/
theorem sanitise_eq_dots (d : Char → Bool) (n : Nat) (s : Str) :
    sanitise d s = List.replicate n '.' ↔ s = List.replicate n '.' := by
  induction s generalizing n with
  | nil => cases n <;> simp [sanitise, List.replicate_succ]
  | cons c cs ih =>
    cases n with
    | zero => simp [sanitise]
    | succ n =>
      have hc : (if keep d c then c else '_') = '.' ↔ c = '.' := by
        by_cases hk : keep d c = true <;> by_cases he : c = '.' <;> simp_all [keep]
      have := ih n
      simp only [sanitise] at this
      simp [sanitise, List.replicate_succ, hc, this]

theorem join_of_noSep {a b : Str} (h : '/' ∉ b) :
    join a b = if a.isEmpty || a.getLast? == some '/' then a ++ b else a ++ '/' :: b := by
  have : (b.head? == some '/') = false := by
    simpa using fun e => h (List.mem_of_mem_head? e)
  simp [join, this]

/-- The components walked for `join dir name` are those of `dir` followed by
`name` (modulo one empty component, which resolution ignores). -/
theorem resolve_join (dir name : Str) (hsep : '/' ∉ name) :
    resolve (join dir name) = (normStep (isAbs dir) (resolve dir).reverse name).reverse := by
  rw [join_of_noSep hsep]
  by_cases he : dir = []
  · subst he
    simp [resolve, split_noSep name hsep, split, isAbs, normStep]
    cases name with
    | nil => simp
    | cons x xs =>
      have : x ≠ '/' := by intro e; subst e; simp at hsep
      simp [this]
  · have hemp : dir.isEmpty = false := by simpa using he
    by_cases hl : dir.getLast? = some '/'
    · obtain ⟨d', rfl⟩ := List.getLast?_eq_some_iff.mp hl
      have habs : isAbs ((d' ++ ['/']) ++ name) = isAbs (d' ++ ['/']) := by
        unfold isAbs; rw [head?_append_of_ne_nil (by simp)]
      simp only [hemp, hl, beq_self_eq_true, Bool.or_true, if_true]
      unfold resolve
      rw [habs]
      have e1 : (d' ++ ['/']) ++ name = d' ++ '/' :: name := by simp
      have e2 : d' ++ ['/'] = d' ++ '/' :: [] := rfl
      rw [e1, split_append_sep, split_noSep name hsep, e2, split_append_sep, split_nil]
      simp [List.foldl_append, normStep]
    · have hl' : (dir.getLast? == some '/') = false := by simpa using hl
      have habs : isAbs (dir ++ '/' :: name) = isAbs dir := by
        unfold isAbs; rw [head?_append_of_ne_nil he]
      simp only [hemp, hl', Bool.or_self, Bool.false_eq_true, if_false]
      unfold resolve
      rw [habs, split_append_sep, split_noSep name hsep]
      simp [List.foldl_append]

theorem normStep_proper (abs : Bool) (st : List Str) (n : Str) (h : properName n) :
    normStep abs st n = n :: st := by
  obtain ⟨h1, h2, h3⟩ := h
  simp [normStep, h1, h2, h3]

/-- "", "." and ".." never add an entry: the walk stays, or goes up, or keeps a leading ".." -/
theorem normStep_improper_ne (abs : Bool) (st : List Str) {u n : Str}
    (hu : u = [] ∨ u = ['.'] ∨ u = ['.', '.']) (hn : properName n) : normStep abs st u ≠ n :: st := by
  intro h
  rcases hu with rfl | rfl | rfl
  -- "" and "." leave the stack as it is
  iterate 2 exact List.cons_ne_self n st (by simpa [normStep] using h.symm)
  simp only [normStep, reduceCtorEq, List.cons.injEq, and_false, or_self, if_false, if_true] at h
  split at h
  next top rest =>
    split at h
    · exact hn.2.2 (List.cons.inj h).1.symm
    · have := congrArg List.length h
      simp at this
      omega
  next =>
    split at h
    · cases h
    · exact hn.2.2 (List.cons.inj h).1.symm

theorem resolve_join_proper (dir name : Str) (hsep : '/' ∉ name) (hp : properName name) :
    resolve (join dir name) = resolve dir ++ [name] := by
  rw [resolve_join dir name hsep, normStep_proper _ _ _ hp]
  simp

theorem prefixOf_mem (tbl : List (Str × Str)) (dflt cls : Str) :
    prefixOf tbl dflt cls ∈ dflt :: tbl.map (·.2) := by
  unfold prefixOf
  split
  next p h => exact List.mem_cons_of_mem _ (List.mem_map_of_mem (f := (·.2)) (lookup_mem h))
  next => exact List.mem_cons_self

theorem okPrefix_spec {p : Str} (h : okPrefix p = true) :
    p ≠ [] ∧ '/' ∉ p ∧ nul ∉ p ∧ p.head? ≠ some '.' := by
  simpa [okPrefix, and_assoc] using h

theorem storescpName_ok (isDigit : Char → Bool) (hsep : isDigit '/' = false) (hnul : isDigit nul = false)
    (tbl : List (Str × Str)) (dflt : Str) (htbl : (dflt :: tbl.map (·.2)).all okPrefix = true) (cls uid : Str) :
    '/' ∉ storescpName isDigit tbl dflt cls uid ∧ nul ∉ storescpName isDigit tbl dflt cls uid ∧
    properName (storescpName isDigit tbl dflt cls uid) := by
  obtain ⟨p1, p2, p3, p4⟩ := okPrefix_spec (List.all_eq_true.mp htbl _ (prefixOf_mem tbl dflt cls))
  obtain ⟨s1, s2⟩ := sanitise_safe hsep hnul uid
  unfold storescpName
  generalize prefixOf tbl dflt cls = p at *
  refine ⟨by simp [p2, s1], by simp [p3, s2, show nul ≠ '.' by decide], ?_⟩
  -- the name begins with the prefix, which is not empty and does not begin with '.'
  cases p with
  | nil => exact absurd rfl p1
  | cons x xs =>
    have hx : x ≠ '.' := by intro e; subst e; simp at p4
    refine ⟨by simp, ?_, ?_⟩ <;>
      (intro e; simp only [List.cons_append, List.cons.injEq] at e; exact hx e.1)

end PynetVerif.Path
