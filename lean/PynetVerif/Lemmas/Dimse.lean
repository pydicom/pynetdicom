import PynetVerif.Model.Dimse
/-!
`encode_msg` in closed form, `mark ctx 1 3 (chunksOf cmd max) ++ mark ctx 0 2 (dataChunks m max)`
(`encodeMsgFull_eq`), and `decode_msg` on what it sends.
-/
namespace PynetVerif.Dimse

theorem ceilDiv_mul_ge (a n : Nat) (hn : 0 < n) : a ≤ ceilDiv a n * n := by
  have := Nat.lt_div_mul_add (a := a + n - 1) hn
  unfold ceilDiv; omega

theorem ceilDiv_mul_lt (a n : Nat) (hn : 0 < n) : ceilDiv a n * n < a + n := by
  have := Nat.div_mul_le_self (a + n - 1) n
  unfold ceilDiv; omega

theorem ceilDiv_zero (n : Nat) (hn : 0 < n) : ceilDiv 0 n = 0 :=
  Nat.div_eq_of_lt (by omega)

theorem ceilDiv_pos (a n : Nat) (hn : 0 < n) (ha : 0 < a) : 0 < ceilDiv a n :=
  Nat.div_pos (by omega) hn

theorem ceilDiv_unique (a n k : Nat) (hn : 0 < n) (h1 : a ≤ k * n) (h2 : (k - 1) * n < a) :
    ceilDiv a n = k := by
  have g1 := ceilDiv_mul_ge a n hn
  have g2 := ceilDiv_mul_lt a n hn
  generalize ceilDiv a n = c at *
  -- c·n < a + n ≤ (k+1)·n  ⇒ c < k+1 ;  (k-1)·n < a ≤ c·n ⇒ k-1 < c
  have hck : c < k + 1 := Nat.lt_of_mul_lt_mul_right (a := n) (by rw [Nat.succ_mul]; omega)
  have hkc : k - 1 < c := Nat.lt_of_mul_lt_mul_right (a := n) (by omega)
  omega

theorem ceilDiv_mul (k n : Nat) (hn : 0 < n) : ceilDiv (k * n) n = k := by
  unfold ceilDiv
  rw [Nat.add_sub_assoc hn, Nat.mul_comm, Nat.mul_add_div hn, Nat.div_eq_of_lt (by omega)]; rfl

theorem length_sliceLoop (b : Bytes) (n : Nat) : ∀ k off, (sliceLoop b n off k).length = k := by
  intro k; induction k with
  | zero => intro off; rfl
  | succ k ih => intro off; simp [sliceLoop, ih]

theorem flatten_sliceLoop (b : Bytes) (n : Nat) :
    ∀ k off, (sliceLoop b n off k).flatten = (b.drop off).take (k * n) := by
  intro k; induction k with
  | zero => intro off; simp [sliceLoop]
  | succ k ih =>
    intro off
    simp only [sliceLoop, List.flatten_cons, ih]
    have : (k + 1) * n = n + k * n := by rw [Nat.succ_mul, Nat.add_comm]
    rw [this, List.take_add, List.drop_drop]

theorem mem_sliceLoop (b : Bytes) (n : Nat) {f : Bytes} : ∀ k off, f ∈ sliceLoop b n off k →
    ∃ pos, pos + n ≤ off + k * n ∧ f.length = min n (b.length - pos) := by
  intro k; induction k with
  | zero => intro off h; cases h
  | succ k ih =>
    intro off h
    rw [Nat.succ_mul]
    rcases List.mem_cons.mp h with rfl | h
    · exact ⟨off, by omega, by simp [List.length_take]⟩
    · obtain ⟨pos, h1, h2⟩ := ih _ h
      exact ⟨pos, by omega, h2⟩

/-- the fragments of `b` for a legal maximum (0 or ≥ 7) -/
def chunksOf (b : Bytes) (max : Nat) : List Bytes :=
  if max = 0 then [b] else sliceLoop b (max - 6) 0 (ceilDiv b.length (max - 6))

theorem chunksOf_of_le (b : Bytes) (max : Nat) (h7 : 7 ≤ max) :
    chunksOf b max = sliceLoop b (max - 6) 0 (ceilDiv b.length (max - 6)) := by
  simp [chunksOf, show max ≠ 0 by omega]

theorem fragments_eq (b : Bytes) (max : Nat) (hm : max = 0 ∨ 7 ≤ max) :
    fragments b max = some (chunksOf b max) := by
  rcases hm with rfl | h7
  · rfl
  · simp [fragments, chunksOf_of_le b max h7, show max ≠ 0 by omega, show ¬ max < 7 by omega]

theorem flatten_chunksOf (b : Bytes) (max : Nat) (hm : max = 0 ∨ 7 ≤ max) :
    (chunksOf b max).flatten = b := by
  rcases hm with rfl | h7
  · exact List.append_nil b
  · rw [chunksOf_of_le b max h7, flatten_sliceLoop]
    exact List.take_of_length_le (ceilDiv_mul_ge _ _ (by omega))

theorem length_chunksOf (b : Bytes) (max : Nat) :
    (chunksOf b max).length = if max = 0 then 1 else ceilDiv b.length (max - 6) := by
  unfold chunksOf
  split <;> simp [length_sliceLoop]

theorem chunksOf_ne_nil (b : Bytes) (max : Nat) (hm : max = 0 ∨ 7 ≤ max) (hb : b ≠ []) :
    chunksOf b max ≠ [] := by
  apply List.ne_nil_of_length_pos
  rw [length_chunksOf]
  split
  · exact Nat.one_pos
  · exact ceilDiv_pos _ _ (by omega) (List.length_pos_iff.mpr hb)

theorem length_of_mem_chunksOf (b : Bytes) (max : Nat) (h7 : 7 ≤ max) (f : Bytes) (hf : f ∈ chunksOf b max) :
    0 < f.length ∧ f.length ≤ max - 6 := by
  rw [chunksOf_of_le b max h7] at hf
  obtain ⟨pos, h1, h2⟩ := mem_sliceLoop b _ _ _ hf
  have := ceilDiv_mul_lt b.length (max - 6) (by omega)
  omega

theorem mem_chunksOf_ne_nil (b : Bytes) (max : Nat) (hm : max = 0 ∨ 7 ≤ max) (hb : b ≠ [])
    (f : Bytes) (hf : f ∈ chunksOf b max) : f ≠ [] := by
  rcases hm with rfl | h7
  · cases List.mem_singleton.mp hf; exact hb
  · exact List.ne_nil_of_length_pos (length_of_mem_chunksOf b max h7 f hf).1

def mark (ctx more last : Nat) : List Bytes → List PDV
  | [] => []
  | [f] => [⟨ctx, last, f⟩]
  | f :: g :: fs => ⟨ctx, more, f⟩ :: mark ctx more last (g :: fs)

theorem emitPart_eq (ctx more last : Nat) (frs : List Bytes) (h : frs ≠ []) :
    emitPart ctx more last (frs.length - 1) frs = (mark ctx more last frs, none) := by
  fun_induction mark ctx more last frs <;> simp_all [emitPart]

theorem nrFragments_eq (len max : Nat) (hm : max = 0 ∨ 7 ≤ max) :
    nrFragments len max = some (if max = 0 then 1 else ceilDiv len (max - 6)) := by
  rcases hm with rfl | h7
  · rfl
  · simp [nrFragments, show max ≠ 0 by omega, show max ≠ 6 by omega, show ¬ max < 6 by omega]

theorem encodePart_eq (ctx more last : Nat) (b : Bytes) (max : Nat)
    (hm : max = 0 ∨ 7 ≤ max) (hb : b ≠ []) :
    encodePart ctx more last b max = (mark ctx more last (chunksOf b max), none) := by
  unfold encodePart
  rw [fragments_eq b max hm, nrFragments_eq _ max hm, ← length_chunksOf]
  exact emitPart_eq ctx more last _ (chunksOf_ne_nil b max hm hb)

theorem map_payload_mark (ctx more last : Nat) (frs : List Bytes) :
    (mark ctx more last frs).map (·.payload) = frs := by
  fun_induction mark ctx more last frs <;> simp_all

theorem map_ctl_mark (ctx more last : Nat) (frs : List Bytes) (h : frs ≠ []) :
    (mark ctx more last frs).map (·.ctl) = List.replicate (frs.length - 1) more ++ [last] := by
  fun_induction mark ctx more last frs <;> simp_all [List.replicate_succ]

theorem length_mark (ctx more last : Nat) (frs : List Bytes) : (mark ctx more last frs).length = frs.length := by
  rw [← List.length_map (f := (·.payload)), map_payload_mark]

theorem payloads_mark (ctx more last : Nat) (frs : List Bytes) : payloads (mark ctx more last frs) = frs.flatten := by
  unfold payloads; rw [map_payload_mark]

theorem mark_eq_nil (ctx more last : Nat) (frs : List Bytes) : mark ctx more last frs = [] ↔ frs = [] := by
  rw [← List.length_eq_zero_iff, length_mark, List.length_eq_zero_iff]

theorem mem_mark (ctx more last : Nat) (frs : List Bytes) (p : PDV) (hp : p ∈ mark ctx more last frs) :
    p.ctx = ctx ∧ (p.ctl = more ∨ p.ctl = last) ∧ p.payload ∈ frs := by
  fun_induction mark ctx more last frs with
  | case1 => cases hp
  | case2 f => cases List.mem_singleton.mp hp; simp
  | case3 f g fs ih =>
    rcases List.mem_cons.mp hp with rfl | h
    · simp
    · have := ih h; simp_all

theorem isCmd_of_mem_mark (ctx more last : Nat) (hk : more % 2 = last % 2) (frs : List Bytes) (p : PDV)
    (hp : p ∈ mark ctx more last frs) : isCmd p = (more % 2 == 1) := by
  obtain ⟨_, h | h, _⟩ := mem_mark ctx more last frs p hp <;> simp [isCmd, h, hk]

theorem fileLoop_eq (file : Bytes) (ctx n off : Nat) : ∀ c x,
    x + c * n ≤ (file.drop off).length →
    fileLoop file ctx n (off + x) c = mark ctx 0 2 (sliceLoop (file.drop off) n x (c + 1)) := by
  intro c; induction c with
  | zero => intro x _; simp [fileLoop, sliceLoop, mark, List.drop_drop]
  | succ c ih =>
    intro x hle
    rw [Nat.succ_mul] at hle
    have hlen : ((file.drop (off + x)).take n).length = n := by
      simp only [List.length_take, List.length_drop] at hle ⊢
      omega
    have ih' := ih (x + n) (by omega)
    rw [show off + (x + n) = off + x + n by omega] at ih'
    rw [fileLoop, hlen, ih']
    simp [sliceLoop, mark, List.drop_drop]

theorem encodeFileData_eq (ctx : Nat) (file : Bytes) (off max : Nat) (hm : max = 0 ∨ 7 ≤ max)
    (hoff : off ≤ file.length) :
    encodeFileData ctx file off max =
      (mark ctx 0 2 (if file.drop off = [] then [[]] else chunksOf (file.drop off) max), none) := by
  have hL : (file.drop off).length = file.length - off := List.length_drop
  rcases hm with rfl | h7
  · have e : (file.drop off).take (file.length - off) = file.drop off := hL ▸ List.take_length
    by_cases hc : file.drop off = [] <;>
      simp [encodeFileData, fileLoop, mark, chunksOf, hc, e, show ¬ file.length + 1 < off by omega]
  · have hn : 0 < max - 6 := by omega
    -- `nr − 1` full reads and a last one: `nr` slices, or one empty slice when `nr = 0`
    have hlt := ceilDiv_mul_lt (file.length - off) _ hn
    have := fileLoop_eq file ctx (max - 6) off (ceilDiv (file.length - off) (max - 6) - 1) 0
      (by rw [hL, Nat.sub_mul]; omega)
    simp only [encodeFileData, show max ≠ 0 by omega, nrFragments_eq _ max (.inr h7), ↓reduceIte]
    rw [Nat.add_zero] at this
    rw [this]
    by_cases hc : file.drop off = []
    · have hz : file.length - off = 0 := by rw [← hL, hc]; rfl
      simp [hc, hz, ceilDiv_zero _ hn, sliceLoop]
    · have hpos : 0 < file.length - off := hL ▸ List.length_pos_iff.mpr hc
      rw [Nat.sub_add_cancel (ceilDiv_pos _ _ hn hpos), if_neg hc, chunksOf_of_le _ max h7, hL]

/-- the data-set bytes of a message -/
def Msg.bytes (m : Msg) : Bytes :=
  match m.dataSet with
  | some d => d
  | none =>
    match m.path with
    | none => []
    | some (file, off) => file.drop off

/-- `encode_msg` takes its file branch: `data_set is None` and a path is set -/
def Msg.fromFile (m : Msg) : Bool := m.dataSet.isNone && m.path.isSome

/-- the data-set fragments `encode_msg` sends: those of the data-set bytes; with no bytes, none from
a stream (it is skipped) but one empty last fragment from a file -/
def dataChunks (m : Msg) (max : Nat) : List Bytes :=
  if m.bytes = [] then (if m.fromFile then [[]] else []) else chunksOf m.bytes max

theorem dataChunks_stream (flag : Bool) (d : Bytes) (path : Option (Bytes × Nat)) (max : Nat) :
    dataChunks ⟨flag, some d, path⟩ max = if d = [] then [] else chunksOf d max := rfl

theorem dataChunks_absent (flag : Bool) (max : Nat) : dataChunks ⟨flag, none, none⟩ max = [] := rfl

theorem dataChunks_file (flag : Bool) (file : Bytes) (off max : Nat) :
    dataChunks ⟨flag, none, some (file, off)⟩ max =
      if file.drop off = [] then [[]] else chunksOf (file.drop off) max := rfl

theorem encodeMsg_eq (ctx : Nat) (cmd : Bytes) (ds : Option Bytes) (max : Nat)
    (hm : max = 0 ∨ 7 ≤ max) (hc : cmd ≠ []) :
    encodeMsg ctx cmd ds max =
      (mark ctx 1 3 (chunksOf cmd max) ++ mark ctx 0 2 (dataChunks ⟨false, ds, none⟩ max), none) := by
  unfold encodeMsg
  rw [encodePart_eq ctx 1 3 cmd max hm hc]
  cases ds with
  | none => simp [dataChunks_absent, mark]
  | some d =>
    by_cases hd : d = []
    · simp [dataChunks_stream, hd, mark]
    · simp [dataChunks_stream, hd, encodePart_eq ctx 0 2 d max hm hd]

theorem encodeMsgFull_eq (ctx : Nat) (cmd : Bytes) (m : Msg) (max : Nat)
    (hm : max = 0 ∨ 7 ≤ max) (hc : cmd ≠ []) (hp : m.pathOk) :
    encodeMsgFull ctx cmd m max =
      (mark ctx 1 3 (chunksOf cmd max) ++ mark ctx 0 2 (dataChunks m max), none) := by
  unfold encodeMsgFull
  obtain ⟨flag, _ | d, path⟩ := m
  · obtain _ | ⟨file, off⟩ := path
    · simp [encodeMsg_eq ctx cmd none max hm hc, dataChunks_absent]
    · simp [encodePart_eq ctx 1 3 cmd max hm hc, encodeFileData_eq ctx file off max hm (hp file off rfl),
        dataChunks_file]
  · simp [encodeMsg_eq ctx cmd (some d) max hm hc, dataChunks_stream]

theorem encodeMsg_eq_full (ctx : Nat) (cmd : Bytes) (ds : Option Bytes) (max : Nat) :
    encodeMsg ctx cmd ds max = encodeMsgFull ctx cmd ⟨false, ds, none⟩ max := by
  cases ds <;> rfl

theorem dataChunks_eq_nil (m : Msg) (max : Nat) (hm : max = 0 ∨ 7 ≤ max) :
    dataChunks m max = [] ↔ m.bytes = [] ∧ m.fromFile = false := by
  unfold dataChunks
  by_cases hb : m.bytes = []
  · cases m.fromFile <;> simp [hb]
  · simp [hb, chunksOf_ne_nil _ max hm hb]

theorem flatten_dataChunks (m : Msg) (max : Nat) (hm : max = 0 ∨ 7 ≤ max) :
    (dataChunks m max).flatten = m.bytes := by
  unfold dataChunks
  by_cases hb : m.bytes = []
  · cases m.fromFile <;> simp [hb]
  · simp [hb, flatten_chunksOf _ max hm]

theorem mem_dataChunks (m : Msg) (max : Nat) (f : Bytes) (hf : f ∈ dataChunks m max) :
    f = [] ∧ m.fromFile = true ∨ m.bytes ≠ [] ∧ f ∈ chunksOf m.bytes max := by
  unfold dataChunks at hf
  by_cases hb : m.bytes = []
  · cases hff : m.fromFile <;> simp_all
  · simp_all

theorem pathOk_none (flag : Bool) (ds : Option Bytes) : (Msg.mk flag ds none).pathOk := by
  intro file off h; cases h

theorem DsShape.pathOk_of_ok (s : DsShape) (hs : s.ok) : (primToMsg s.toPrim).pathOk := by
  intro file off h
  cases s with
  | file c o => cases h; exact hs
  | _ => cases h

theorem mem_encode (ctx : Nat) (cmd : Bytes) (m : Msg) (max : Nat)
    (hm : max = 0 ∨ 7 ≤ max) (hc : cmd ≠ []) (hp : m.pathOk) (p : PDV)
    (h : p ∈ (encodeMsgFull ctx cmd m max).1) :
    p.ctx = ctx ∧ (p.payload ∈ chunksOf cmd max ∨ p.payload ∈ dataChunks m max) := by
  rw [encodeMsgFull_eq ctx cmd m max hm hc hp] at h
  rcases List.mem_append.mp h with h | h
  · exact ⟨(mem_mark _ _ _ _ _ h).1, .inl (mem_mark _ _ _ _ _ h).2.2⟩
  · exact ⟨(mem_mark _ _ _ _ _ h).1, .inr (mem_mark _ _ _ _ _ h).2.2⟩

theorem frags_encode (ctx : Nat) (cmd : Bytes) (m : Msg) (max : Nat)
    (hm : max = 0 ∨ 7 ≤ max) (hc : cmd ≠ []) (hp : m.pathOk) :
    cmdFrags (encodeMsgFull ctx cmd m max).1 = mark ctx 1 3 (chunksOf cmd max) ∧
    dataFrags (encodeMsgFull ctx cmd m max).1 = mark ctx 0 2 (dataChunks m max) := by
  have h1 : ∀ p ∈ mark ctx 1 3 (chunksOf cmd max), isCmd p = true := isCmd_of_mem_mark ctx 1 3 rfl _
  have h0 : ∀ p ∈ mark ctx 0 2 (dataChunks m max), isCmd p = false := isCmd_of_mem_mark ctx 0 2 rfl _
  rw [encodeMsgFull_eq ctx cmd m max hm hc hp]
  simp only [cmdFrags, dataFrags, List.filter_append]
  constructor
  · rw [List.filter_eq_self.mpr h1, List.filter_eq_nil_iff.mpr (by simpa using h0), List.append_nil]
  · rw [List.filter_eq_nil_iff.mpr (by simpa using h1), List.filter_eq_self.mpr (by simpa using h0), List.nil_append]

/-- `decode_msg` is a left fold with early exit -/
theorem decodePDVs_step (noDS : Bytes → Option Bool) (st : DecState) (p : PDV) :
    (∃ st', ∀ rest, decodePDVs noDS st (p :: rest) = decodePDVs noDS st' rest) ∨
    (∃ st' o, o ≠ .more ∧ ∀ rest, decodePDVs noDS st (p :: rest) = (st', o, rest)) := by
  simp only [decodePDVs]
  split
  · split
    · rcases noDS (st.cmdBuf ++ p.payload) with _ | _ | _
      · exact .inr ⟨_, .error, by decide, fun _ => rfl⟩
      · exact .inl ⟨_, fun _ => rfl⟩
      · exact .inr ⟨_, .complete, by decide, fun _ => rfl⟩
    · exact .inl ⟨_, fun _ => rfl⟩
  · split
    · exact .inr ⟨_, .complete, by decide, fun _ => rfl⟩
    · exact .inl ⟨_, fun _ => rfl⟩

/-- `decode_msg` consumes a PDV list left to right; a `more` result has
consumed everything. -/
theorem decodePDVs_more_rest (noDS : Bytes → Option Bool) : ∀ (l : List PDV) (st st' : DecState) (r : List PDV),
    decodePDVs noDS st l = (st', .more, r) → r = [] := by
  intro l; induction l with
  | nil => intro st st' r h; cases h; rfl
  | cons p ps ih =>
    intro st st' r h
    rcases decodePDVs_step noDS st p with ⟨st1, e⟩ | ⟨st1, o, ho, e⟩
    · exact ih _ _ _ (e ps ▸ h)
    · rw [e] at h; cases h; exact absurd rfl ho

theorem decodePDVs_append (noDS : Bytes → Option Bool) : ∀ (a b : List PDV) (st : DecState),
    decodePDVs noDS st (a ++ b) =
      (match decodePDVs noDS st a with
       | (st', .more, _) => decodePDVs noDS st' b
       | (st', o, r) => (st', o, r ++ b)) := by
  intro a; induction a with
  | nil => intro b st; rfl
  | cons p ps ih =>
    intro b st
    rcases decodePDVs_step noDS st p with ⟨st1, e⟩ | ⟨st1, o, ho, e⟩
    · rw [List.cons_append, e, e, ih]
    · rw [List.cons_append, e, e]
      cases o with
      | more => exact absurd rfl ho
      | _ => rfl

/-- (`more`, `last`) is (1, 3) for the command set, (0, 2) for the data set -/
theorem decodePDVs_mark (noDS : Bytes → Option Bool) (ctx more last : Nat) (rest : List PDV)
    (hk : more % 2 = last % 2) (hm : more / 2 % 2 = 0) (frs : List Bytes) (st : DecState) (h : frs ≠ []) :
    decodePDVs noDS st (mark ctx more last frs ++ rest) =
      decodePDVs noDS st (⟨ctx, last, frs.flatten⟩ :: rest) := by
  fun_induction mark ctx more last frs generalizing st with
  | case1 => exact absurd rfl h
  | case2 f => simp
  | case3 f g fs ih =>
    -- a `more` fragment only appends `f` to the buffer that `last` feeds too; then `ih` and `++` assoc
    have ih := fun st => ih st (List.cons_ne_nil g fs)
    by_cases hl : last % 2 = 1 <;> simp [decodePDVs, hk, hm, hl, ih]

theorem decodePDVs_sent (noDS : Bytes → Option Bool) (ctx : Nat) (cs ds : List Bytes) (hc : cs ≠ []) :
    decodePDVs noDS {} (mark ctx 1 3 cs ++ mark ctx 0 2 ds) =
      (let st : DecState := { cmdBuf := cs.flatten, ctx := some ctx, cmd := some cs.flatten }
       match noDS cs.flatten with
       | none => (st, .error, mark ctx 0 2 ds)
       | some true => (st, .complete, mark ctx 0 2 ds)
       | some false => if ds = [] then (st, .more, []) else ({ st with ds := ds.flatten }, .complete, [])) := by
  rw [decodePDVs_mark noDS ctx 1 3 _ rfl rfl cs _ hc]
  simp only [decodePDVs, Nat.reduceMod, Nat.reduceDiv, ↓reduceIte, List.nil_append]
  rcases noDS cs.flatten with _ | _ | _
  · rfl
  · by_cases hd : ds = []
    · simp [hd, mark, decodePDVs]
    · have := decodePDVs_mark noDS ctx 0 2 [] rfl rfl ds
      simp only [List.append_nil] at this
      simp [hd, this, decodePDVs]
  · rfl

/-- the grouping into P-DATA primitives is irrelevant -/
theorem decodeMsg_flatten (noDS : Bytes → Option Bool) : ∀ (g : List (List PDV)) (st : DecState),
    (decodeMsg noDS st g).1 = (decodePDVs noDS st g.flatten).1 ∧
    (decodeMsg noDS st g).2.1 = (decodePDVs noDS st g.flatten).2.1 ∧
    ((∀ x ∈ g, x ≠ []) → (decodePDVs noDS st g.flatten).2.2 = [] → (decodeMsg noDS st g).2.2 = []) := by
  intro g; induction g with
  | nil => intro st; exact ⟨rfl, rfl, fun _ _ => rfl⟩
  | cons a gs ih =>
    intro st
    rw [List.flatten_cons, decodePDVs_append, decodeMsg]
    rcases decodePDVs noDS st a with ⟨st', o, r⟩
    cases o with
    | more => exact ⟨(ih st').1, (ih st').2.1, fun h => (ih st').2.2 fun x hx => h x (List.mem_cons_of_mem _ hx)⟩
    | _ =>
      refine ⟨rfl, rfl, fun hne h => ?_⟩
      -- nothing may be left of the later groups, so there are none
      cases gs with
      | nil => rfl
      | cons b bs => exact absurd (List.append_eq_nil_iff.mp (List.append_eq_nil_iff.mp h).2).1 (hne b (by simp))

end PynetVerif.Dimse
