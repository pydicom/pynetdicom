import PynetVerif.Lemmas.Dul
/-!
Lemmas for the streamed-P-DATA part of the C05 invariant (`Props/C05Inv.lean`, shape `Strm`): synchronous
admissibility as a special case, event queues led by a terminating event, `streamQ` as a proposition.
-/
namespace PynetVerif.Dul
open PynetVerif.Fsm

theorem stepOk_of_sync (s : St) (st : Step) (h : stepOkSync s st = true) : stepOk s st = true := by
  cases st with
  | env e =>
    cases e with
    | «local» p => simp only [stepOk, quiescentOk, Bool.or_eq_true]; exact Or.inl h
    | _ => exact h
  | _ => rfl

theorem runOk_of_sync : ∀ (sched : List Step) (s : St), runOkSync s sched = true → runOk s sched = true := by
  intro sched
  induction sched with
  | nil => intro _ _; rfl
  | cons st rest ih =>
    intro s h
    simp only [runOkSync, Bool.and_eq_true] at h
    simp only [runOk, Bool.and_eq_true]
    exact ⟨stepOk_of_sync s st h.1, ih _ h.2⟩

theorem termLed_cons {t : Nat} {r : List Nat} (h : termLed (t :: r) = true) : t = 16 ∨ t = 17 := by
  simpa [termLed] using h

theorem termLed_append {q : List Nat} (ex : List Nat) (h : termLed q = true) (hne : q ≠ []) :
    termLed (q ++ ex) = true := by
  cases q with
  | nil => exact absurd rfl hne
  | cons t r => exact h

theorem termLed_append17 {q ex : List Nat} (h : termLed q = true) (hex : ∀ x ∈ ex, x = 17) :
    termLed (q ++ ex) = true := by
  cases q with
  | nil =>
    cases ex with
    | nil => rfl
    | cons x r => simp [termLed, hex x (List.mem_cons_self ..)]
  | cons t r => exact h

theorem allPdata_iff {q : List Prim} : allPdata q = true ↔ ∀ p ∈ q, p = .pdata := by
  simp [allPdata]

theorem altOf_false_of_headDecodable (s : St) (a : Action) (e : Nat) (h : headDecodable s.recvPdu = true) :
    altOf s a e = false := by
  unfold altOf
  split
  · revert h
    cases s.recvPdu with
    | nil => intro _; rfl
    | cons x r =>
      obtain ⟨n, alt⟩ := x
      cases alt <;> simp [headDecodable]
  · rfl

theorem streamQ_spec {s : St} (h : streamQ s = true) :
    termLed s.eventQ = true ∨ (s.phaseB = true ∧ ∃ e r, s.eventQ = e :: r ∧ termLed r = true ∧
      (e = 9 ∨ e = 12 ∨ (e = 10 ∧ headDecodable s.recvPdu = true))) := by
  unfold streamQ at h
  rcases Bool.or_eq_true_iff.mp h with h | h
  · exact Or.inl h
  · right
    simp only [Bool.and_eq_true] at h
    obtain ⟨hb, hm⟩ := h
    refine ⟨hb, ?_⟩
    cases heq : s.eventQ with
    | nil => rw [heq] at hm; cases hm
    | cons e r =>
      rw [heq] at hm
      simp only [Bool.and_eq_true, Bool.or_eq_true, beq_iff_eq] at hm
      obtain ⟨ht, (h9 | h12) | ⟨h10, hdec⟩⟩ := hm
      · exact ⟨e, r, rfl, ht, Or.inl h9⟩
      · exact ⟨e, r, rfl, ht, Or.inr (Or.inl h12)⟩
      · exact ⟨e, r, rfl, ht, Or.inr (Or.inr ⟨h10, hdec⟩)⟩

/-- ARTIM does not run in Sta6/Sta8, so it cannot have expired there -/
theorem not_expired_68 {f : Nat} {ar : Artim} (hf : f = 6 ∨ f = 8) (h : artimOk f ar = true) :
    ar.expired = false := by
  rcases hf with rfl | rfl <;> cases ar <;> first | rfl | cases h

end PynetVerif.Dul
