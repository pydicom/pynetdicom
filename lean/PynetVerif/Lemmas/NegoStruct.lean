import PynetVerif.Lemmas.NegoSteps
/-!
What the negotiation functions return for a proposal list with distinct context ids.  In either mode the acceptor's
results are what ONE loop over the proposals returned (`sideOne`, `side_loop`), so what is known of a result, or of a
role item of the answer, is what the case of its loop body says; `assoc_view` pairs them with the requestor's.
`side_from` gives the proposal behind a result and its `sideOne` equation, `sideOne_ok` splits that
equation into the three cases (`sideOne_step`: the same as `SideStep`).
-/
namespace PynetVerif.Nego

theorem DistinctIds.filter {rq : List Cx} (h : DistinctIds rq) (f : Cx → Bool) : DistinctIds (rq.filter f) :=
  List.Sublist.nodup (List.Sublist.map _ List.filter_sublist) h

/-- which loop body of the acceptor side produced a result, in either mode -/
inductive SideStep (u : Bool) (sl : Nat → Bool) (ac : List Cx) (roles : Roles) (p : Cx) (r : AccCx) : Prop
  | normal : u = false → (∃ ro, AccStep ac roles p r ro) → SideStep u sl ac roles p r
  | unrNon : u = true → sl p.abs = false → (∃ ro, AccStep ac roles p r ro) → SideStep u sl ac roles p r
  | unrSto : u = true → sl p.abs = true → (∃ ro, UnrStep roles p r ro) → SideStep u sl ac roles p r

theorem SideStep.id_abs {u : Bool} {sl : Nat → Bool} {ac : List Cx} {roles : Roles} {p : Cx} {r : AccCx}
    (h : SideStep u sl ac roles p r) : r.id = p.id ∧ r.abs = p.abs := by
  cases h with
  | normal _ h => obtain ⟨_, h⟩ := h; exact h.id_abs
  | unrNon _ _ h => obtain ⟨_, h⟩ := h; exact h.id_abs
  | unrSto _ _ h => obtain ⟨_, h⟩ := h; exact h.id_abs

/-- the acceptor's loop body for one proposal in either mode; the role items of the inner
`negotiate_as_acceptor` call of `negotiate_unrestricted` are dropped, as in the code -/
def sideOne (u : Bool) (sl : Nat → Bool) (ac : List Cx) (roles : Roles) (p : Cx) : Except Err (AccCx × Option RoleItem) :=
  if u then (if sl p.abs then unrOne roles p else (accOne ac roles p).map fun x => (x.1, none)) else accOne ac roles p

section
variable {u : Bool} {sl : Nat → Bool} {rq ac : List Cx} {roles : Roles} {res : List AccCx} {reply : List RoleItem}
  {p : Cx} {r : AccCx} {ro : Option RoleItem}

theorem accOne_nil (roles : Roles) : accOne [] roles = noAcOne := by
  funext p; simp [accOne]

theorem accOne_ne_nil (h : ac ≠ []) (roles : Roles) : accOne ac roles = negOne ac roles := by
  funext p
  have : ac.isEmpty = false := by cases ac <;> simp_all
  simp [accOne, this]

theorem noAcOne_item {x : AccCx × Option RoleItem} (h : noAcOne p = .ok x) : x.2 = none := by
  unfold noAcOne at h
  split at h
  · cases h
  · cases h; rfl

theorem acc_loop (hd : DistinctIds rq) (hok : negotiateAsAcceptor rq ac roles = .ok (res, reply)) :
    ∃ rs, mapE (accOne ac roles) rq = .ok rs ∧ res.Perm (rs.map (·.1)) ∧
      reply = sortRoles (dictBy (·.uid) (rs.filterMap (·.2))) := by
  unfold negotiateAsAcceptor at hok
  split at hok
  · rename_i hrq
    cases hok
    rw [List.isEmpty_iff.mp hrq]
    exact ⟨[], rfl, .refl _, rfl⟩
  · split at hok
    · rename_i hac
      rw [List.isEmpty_iff.mp hac, accOne_nil]
      split at hok
      · cases hok
      · rename_i rs hm
        cases hok
        refine ⟨rs, hm, .refl _, ?_⟩
        have : rs.filterMap (·.2) = [] :=
          List.filterMap_eq_nil_iff.mpr fun x hx =>
            let ⟨_, _, hp⟩ := mapE_ok_mem_right hm x hx
            noAcOne_item hp
        rw [this]; rfl
    · rename_i hac
      rw [dictBy_of_nodup _ (List.pairwise_map.mpr ((List.pairwise_map.mp hd).imp fun h e => h (congrArg Prod.fst e)))] at hok
      rw [accOne_ne_nil (by simpa using hac)]
      split at hok
      · cases hok
      · rename_i rs hm
        cases hok
        exact ⟨rs, hm, sortAcc_perm _, rfl⟩

theorem sideOne_sto (h : sl p.abs = true) (ac : List Cx) (roles : Roles) :
    sideOne true sl ac roles p = unrOne roles p := by
  simp [sideOne, h]

theorem sideOne_non (h : sl p.abs = false) (ac : List Cx) (roles : Roles) :
    sideOne true sl ac roles p = (accOne ac roles p).map fun x => (x.1, none) := by
  simp [sideOne, h]

/-- `l` is `rq` itself, in unrestricted mode with the storage-like proposals moved to the end -/
theorem side_loop (hd : DistinctIds rq) (hok : acceptorSide u sl rq ac roles = .ok (res, reply)) :
    ∃ l rs, l.Perm rq ∧ mapE (sideOne u sl ac roles) l = .ok rs ∧ res.Perm (rs.map (·.1)) ∧
      reply = sortRoles (dictBy (·.uid) (rs.filterMap (·.2))) := by
  cases u with
  | false =>
    obtain ⟨rs, hm, hp, hr⟩ := acc_loop hd hok
    exact ⟨rq, rs, .refl _, hm, hp, hr⟩
  | true =>
    simp only [acceptorSide, negotiateUnrestricted, ↓reduceIte] at hok
    split at hok
    · cases hok
    · rename_i resN _ hN
      split at hok
      · cases hok
      · rename_i rsS hS
        cases hok
        obtain ⟨rsN, hmN, hpN, -⟩ := acc_loop (hd.filter _) hN
        refine ⟨rq.filter (fun p => !sl p.abs) ++ rq.filter (fun p => sl p.abs), rsN.map (fun x => (x.1, none)) ++ rsS,
          ?_, mapE_of_eq ?_, ?_, ?_⟩
        · simpa using List.filter_append_perm (fun p => !sl p.abs) rq
        · rw [List.map_append, List.map_append, ← mapE_ok_eq hS, List.map_map]
          show _ = List.map (Except.map (fun x => (x.1, none)) ∘ Except.ok) rsN ++ _
          rw [← List.map_map, ← mapE_ok_eq hmN, List.map_map]
          congr 1
          · exact List.map_congr_left fun p hp => sideOne_non (by simpa using (List.mem_filter.mp hp).2) ac roles
          · exact List.map_congr_left fun p hp => sideOne_sto (List.mem_filter.mp hp).2 ac roles
        · refine (sortAcc_perm _).trans ?_
          simpa [Function.comp_def] using hpN.append_right _
        · simp [List.filterMap_map, Function.comp_def, List.filterMap_eq_nil_iff.mpr]

theorem sideOne_ok (h : sideOne u sl ac roles p = .ok (r, ro)) :
    (u = false ∧ AccStep ac roles p r ro) ∨
    (u = true ∧ sl p.abs = false ∧ (∃ ro', AccStep ac roles p r ro') ∧ ro = none) ∨
    (u = true ∧ sl p.abs = true ∧ UnrStep roles p r ro) := by
  cases u with
  | false => exact .inl ⟨rfl, accOne_step h⟩
  | true =>
    cases hsl : sl p.abs with
    | true => exact .inr (.inr ⟨rfl, rfl, unrOne_step (sideOne_sto hsl ac roles ▸ h)⟩)
    | false =>
      rw [sideOne_non hsl] at h
      cases hx : accOne ac roles p with
      | error e => simp [hx, Except.map] at h
      | ok x =>
        simp only [hx, Except.map, Except.ok.injEq, Prod.mk.injEq] at h
        exact .inr (.inl ⟨rfl, rfl, ⟨x.2, accOne_step (h.1 ▸ hx)⟩, h.2.symm⟩)

theorem sideOne_step (h : sideOne u sl ac roles p = .ok (r, ro)) :
    SideStep u sl ac roles p r := by
  rcases sideOne_ok h with ⟨hu, hs⟩ | ⟨hu, hsl, hs, -⟩ | ⟨hu, hsl, hs⟩
  · exact .normal hu ⟨ro, hs⟩
  · exact .unrNon hu hsl hs
  · exact .unrSto hu hsl ⟨ro, hs⟩

theorem sideOne_item {p' : Cx} {r' : AccCx} {it : RoleItem} (h' : sideOne u sl ac roles p' = .ok (r', some it)) :
    it.uid = p'.abs ∧ ∀ {p r ro}, sideOne u sl ac roles p = .ok (r, ro) → r.result = 0 → p'.abs = p.abs → ro = some it := by
  rcases sideOne_ok h' with ⟨rfl, hs'⟩ | ⟨-, -, -, h⟩ | ⟨rfl, hsl, hs'⟩
  · obtain ⟨_, _, _, _, _, ha⟩ := hs'.some_inv rfl
    exact ⟨by rw [ha.item]; rfl, fun h h0 habs => (accOne_step h).item_det h0 hs' habs⟩
  · cases h
  · exact ⟨by cases hs'; rfl, fun h _ habs => (unrOne_step (sideOne_sto (habs ▸ hsl) ac roles ▸ h)).item_det hs' habs⟩

/-- What a role item in the answer says: a Boolean pair `(a, b)` was proposed for the abstract syntax of an accepted
context, the item says `True` only where the proposal did, and whoever evaluates the proposal against the item gets the
complement of the roles the acceptor took. -/
theorem sideOne_some {it : RoleItem} (hb : BoolRoles roles) (h : sideOne u sl ac roles p = .ok (r, some it)) :
    ∃ a b, roles.lookup p.abs = some (some a, some b) ∧ it.uid = p.abs ∧ r.result = 0 ∧
      (it.scu = true → a = true) ∧ (it.scp = true → b = true) ∧
      ∀ o', tableLookup (some a, some b) (some it.scu, some it.scp) = .ok o' →
        r.asScp = some o'.1 ∧ r.asScu = some o'.2.1 := by
  rcases sideOne_ok h with ⟨-, hs⟩ | ⟨-, -, -, h⟩ | ⟨-, -, hs⟩
  · -- the item is the acceptor's configuration capped by the proposal
    obtain ⟨c, t, cu, cp, o, ha⟩ := hs.some_inv rfl
    obtain ⟨v, hv⟩ := Option.isSome_iff_exists.mp ha.proposed
    obtain ⟨a, b, rfl⟩ := lookup_bool hb hv
    have ht := ha.table
    rw [ha.item, ha.result]
    rw [rqRolesOf, hv] at ht ⊢
    refine ⟨a, b, rfl, rfl, rfl, ?_, ?_, fun o' ht' => ?_⟩
    · cases a <;> simp [replyItem]
    · cases b <;> simp [replyItem]
    · obtain ⟨f1, f2⟩ := table_complementary a b cu cp ht ha.granted ht'
      simp [f1, f2]
  · cases h
  · -- the item echoes the proposal, against which the acceptor evaluated (True, True)
    cases hs with
    | withRole t rest v o _ hl ht =>
      obtain ⟨a, b, rfl⟩ := lookup_bool hb hl
      refine ⟨a, b, hl, rfl, rfl, by simp, by simp, fun o' ht' => ?_⟩
      obtain ⟨f1, f2⟩ := table_unrestricted a b ht (by simpa using ht')
      simp [f1, f2]

theorem sideOne_id_abs {x : AccCx × Option RoleItem} (h : sideOne u sl ac roles p = .ok x) :
    x.1.id = p.id ∧ x.1.abs = p.abs :=
  (sideOne_step (r := x.1) (ro := x.2) h).id_abs

theorem side_keys (hd : DistinctIds rq) (hok : acceptorSide u sl rq ac roles = .ok (res, reply)) :
    (res.map fun r => (r.id, r.abs)).Perm (rq.map fun p => (p.id, p.abs)) := by
  obtain ⟨l, rs, hl, hm, hres, -⟩ := side_loop hd hok
  exact loop_keys hl hm hres fun p x h => by rw [(sideOne_id_abs h).1, (sideOne_id_abs h).2]

theorem side_from (hd : DistinctIds rq) (hok : acceptorSide u sl rq ac roles = .ok (res, reply)) (hr : r ∈ res) :
    ∃ p ∈ rq, p.id = r.id ∧ ∃ ro, sideOne u sl ac roles p = .ok (r, ro) := by
  obtain ⟨l, rs, hl, hm, hres, -⟩ := side_loop hd hok
  obtain ⟨p, hp, x, hx, rfl⟩ := loop_from hl hm hres hr
  exact ⟨p, hp, (sideOne_id_abs hx).1.symm, x.2, hx⟩

theorem side_item_from {it : RoleItem} (hd : DistinctIds rq) (hok : acceptorSide u sl rq ac roles = .ok (res, reply))
    (hit : it ∈ reply) : ∃ p, ∃ r ∈ res, sideOne u sl ac roles p = .ok (r, some it) := by
  obtain ⟨l, rs, -, hm, hres, rfl⟩ := side_loop hd hok
  obtain ⟨x, hx, hx2⟩ := List.mem_filterMap.mp (mem_dictBy _ ((sortRoles_perm _).mem_iff.mp hit))
  obtain ⟨p, -, hpx⟩ := mapE_ok_mem_right hm x hx
  exact ⟨p, x.1, hres.mem_iff.mpr (List.mem_map_of_mem hx), hx2 ▸ hpx⟩

/-- the two modes as instances of `acceptorSide` (`sl` plays no part when `u = false`: any value does) -/
theorem acc_side (hok : negotiateAsAcceptor rq ac roles = .ok (res, reply)) :
    acceptorSide false (fun _ => false) rq ac roles = .ok (res, reply) := hok

theorem unr_side (hok : negotiateUnrestricted sl rq ac roles = .ok (res, reply)) :
    acceptorSide true sl rq ac roles = .ok (res, reply) := hok

theorem acc_from (hd : DistinctIds rq) (hok : negotiateAsAcceptor rq ac roles = .ok (res, reply)) (hr : r ∈ res) :
    ∃ p ∈ rq, p.id = r.id ∧ ∃ ro, AccStep ac roles p r ro := by
  obtain ⟨p, hp, hid, ro, hs⟩ := side_from hd (acc_side hok) hr
  exact ⟨p, hp, hid, ro, accOne_step hs⟩

theorem lookup_reply {items : List RoleItem} {a : Nat} {v : Option RoleItem}
    (hv : ∀ it, v = some it → it ∈ items ∧ it.uid = a) (hall : ∀ it ∈ items, it.uid = a → v = some it) :
    (acRolesOnWire (sortRoles (dictBy (·.uid) items))).lookup a = v.map fun it => (some it.scu, some it.scp) := by
  have hsub : ∀ it ∈ sortRoles (dictBy (·.uid) items), it ∈ items :=
    fun it h => mem_dictBy _ ((sortRoles_perm _).mem_iff.mp h)
  cases v with
  | none =>
    refine List.lookup_eq_none_iff.mpr fun kv hkv => ?_
    obtain ⟨it, h, rfl⟩ := List.mem_map.mp hkv
    simpa using fun e : a = it.uid => nomatch hall it (hsub it h) e.symm
  | some it =>
    obtain ⟨y, hy, hk⟩ := key_mem_dictBy (·.uid) (hv it rfl).1
    refine lookup_some_of_forall a _ _
      ⟨_, List.mem_map_of_mem ((sortRoles_perm _).mem_iff.mpr hy), hk.trans (hv it rfl).2⟩ fun kv hkv ha => ?_
    obtain ⟨it', h, rfl⟩ := List.mem_map.mp hkv
    rw [Option.some.inj (hall it' (hsub it' h) ha)]

/-- what the requestor will find for an accepted context: the role item its loop body assigned, if any -/
theorem side_lookup (hd : DistinctIds rq) (hok : acceptorSide u sl rq ac roles = .ok (res, reply)) (hp : p ∈ rq)
    (hs : sideOne u sl ac roles p = .ok (r, ro)) (h0 : r.result = 0) :
    (acRolesOnWire reply).lookup p.abs = ro.map fun it => (some it.scu, some it.scp) := by
  obtain ⟨l, rs, hl, hm, -, rfl⟩ := side_loop hd hok
  apply lookup_reply
  · rintro it rfl
    obtain ⟨x, hx, hpx⟩ := mapE_ok_mem_left hm p (hl.mem_iff.mpr hp)
    cases hs.symm.trans hpx
    exact ⟨List.mem_filterMap.mpr ⟨_, hx, rfl⟩, (sideOne_item hs).1⟩
  · intro it hit ha
    obtain ⟨x, hx, hx2⟩ := List.mem_filterMap.mp hit
    obtain ⟨p', -, hpx⟩ := mapE_ok_mem_right hm x hx
    obtain ⟨r', ro'⟩ := x
    cases hx2
    exact (sideOne_item hpx).2 hs h0 ((sideOne_item hpx).1.symm.trans ha)

end

theorem req_view {rq : List Cx} {acs : List WireCx} {roles : Roles} {out : List ReqCx}
    (hd : DistinctIds rq) (hok : negotiateAsRequestor rq acs roles = .ok out) :
    (out.map fun q => (q.id, q.abs)).Perm (rq.map fun p => (p.id, p.abs)) ∧
    ∀ p ∈ rq, ∀ q ∈ out, p.id = q.id → reqOne acs roles p = .ok q := by
  unfold negotiateAsRequestor at hok
  rw [dictBy_of_nodup _ hd] at hok
  split at hok
  · cases hok
  · split at hok
    · cases hok
    · rename_i qs hm
      cases hok
      have hres : (sortReq qs).Perm (qs.map id) := by simpa using sortReq_perm qs
      have hk := fun p q (h : reqOne acs roles p = .ok q) => (reqOne_step h).id_abs
      refine ⟨loop_keys (.refl _) hm hres fun p q h => by rw [id, (hk p q h).1, (hk p q h).2], ?_⟩
      intro p hp q hq hid
      obtain ⟨p', hp', q', hq', rfl⟩ := loop_from (.refl _) hm hres hq
      cases eq_of_nodup_map Cx.id hd p' hp' p hp ((hk p' _ hq').1.symm.trans hid.symm)
      exact hq'

theorem applyOne_fields (roles : Roles) (p : Cx) :
    (applyOne roles p).id = p.id ∧ (applyOne roles p).abs = p.abs ∧ (applyOne roles p).ts = p.ts := by
  unfold applyOne
  split <;> exact ⟨rfl, rfl, rfl⟩

theorem applyRoles_distinct {roles : Roles} {rq : List Cx} (hd : DistinctIds rq) : DistinctIds (applyRoles roles rq) := by
  simpa [DistinctIds, applyRoles, List.map_map, Function.comp_def, applyOne_fields] using hd

theorem rqRolesOnWire_lookup (roles : Roles) (a : Nat) :
    (rqRolesOnWire roles).lookup a = (roles.lookup a).map fun v => (some (v.1.getD false), some (v.2.getD false)) := by
  unfold rqRolesOnWire
  exact lookup_map_val (fun v : RolePair => ((some (v.1.getD false), some (v.2.getD false)) : RolePair)) a roles

theorem rqRolesOnWire_bool (roles : Roles) : BoolRoles (rqRolesOnWire roles) := by
  intro kv hkv
  obtain ⟨kv', -, rfl⟩ := List.mem_map.mp hkv
  exact ⟨_, _, rfl⟩

/-- the requestor's own pair on a context is the one its role item carries over the wire -/
theorem applyOne_roles {roles : Roles} {p : Cx} {v : RolePair} (h : (rqRolesOnWire roles).lookup p.abs = some v) :
    ((applyOne roles p).scu, (applyOne roles p).scp) = v := by
  rw [rqRolesOnWire_lookup] at h
  unfold applyOne
  cases hl : roles.lookup p.abs with
  | none => simp [hl] at h
  | some w => rw [hl] at h; exact Option.some.inj h

section
variable {u : Bool} {sl : Nat → Bool} {rq ac : List Cx} {rqRoles : Roles} {res : List AccCx} {out : List ReqCx}

theorem associate_ok (hok : associate u sl rq rqRoles ac = .ok (res, out)) :
    ∃ reply, acceptorSide u sl rq ac (rqRolesOnWire rqRoles) = .ok (res, reply) ∧
      negotiateAsRequestor (applyRoles rqRoles rq) (res.map wireCx) (acRolesOnWire reply) = .ok out := by
  unfold associate at hok
  split at hok
  · cases hok
  · rename_i res' reply ha
    split at hok
    · cases hok
    · rename_i out' hr
      cases hok
      exact ⟨reply, ha, hr⟩

/-- `q` is the requestor's loop body on the proposal `p` that gave `r`, with `r` found on the wire -/
theorem assoc_view (hd : DistinctIds rq) (hok : associate u sl rq rqRoles ac = .ok (res, out)) :
    ∃ reply, acceptorSide u sl rq ac (rqRolesOnWire rqRoles) = .ok (res, reply) ∧
      (res.map fun r => (r.id, r.abs)).Perm (rq.map fun p => (p.id, p.abs)) ∧
      (out.map fun q => (q.id, q.abs)).Perm (rq.map fun p => (p.id, p.abs)) ∧
      ∀ r ∈ res, ∀ q ∈ out, r.id = q.id → ∃ p ∈ rq,
        (∃ ro, sideOne u sl ac (rqRolesOnWire rqRoles) p = .ok (r, ro)) ∧
        ReqStep (res.map wireCx) (acRolesOnWire reply) (applyOne rqRoles p) q ∧
        q.abs = r.abs ∧ q.result = r.result ∧ q.ts = [r.ts] := by
  obtain ⟨reply, ha, hr⟩ := associate_ok hok
  have hres := side_keys hd ha
  obtain ⟨hout, hreq⟩ := req_view (applyRoles_distinct hd) hr
  have hkeys : (applyRoles rqRoles rq).map (fun p => (p.id, p.abs)) = rq.map fun p => (p.id, p.abs) := by
    simp [applyRoles, List.map_map, Function.comp_def, applyOne_fields]
  rw [hkeys] at hout
  refine ⟨reply, ha, hres, hout, fun r hr' q hq hid => ?_⟩
  obtain ⟨p, hp, hpid, ro, hs⟩ := side_from hd ha hr'
  obtain ⟨hi, ha'⟩ := applyOne_fields rqRoles p
  have hq' := reqOne_step (hreq _ (List.mem_map_of_mem hp) q hq (by rw [hi, hpid, hid]))
  have hl : wireLookup (res.map wireCx) (applyOne rqRoles p).id = some (wireCx r) := by
    rw [hi, hpid]
    exact wireLookup_of_nodup (nodup_fst_of_perm hres hd) hr'
  exact ⟨p, hp, ⟨ro, hs⟩, hq', by rw [hq'.id_abs.2, ha'.1, (sideOne_id_abs hs).2], hq'.found hl⟩

end

end PynetVerif.Nego
