import PynetVerif.Lemmas.PairInv
import PynetVerif.Lemmas.PairFifo
/-!
The invariant of the product model under admissible schedules (`PInv`): both reactors satisfy the
single-reactor invariant `SInv`; EOF is delivered last, once, only after the sender has closed for
good and everything it sent has been delivered; the acceptor exists once the requestor has connected.
-/
namespace PynetVerif
open Dul Fsm

namespace PairL

/-- the inbox holds PDUs, then EOF if and only if EOF has been delivered -/
def InboxEof (x : St) (eof : Bool) : Prop :=
  ∃ l, (∀ w ∈ l, w ≠ Wire.eof) ∧ x.inbox = l ++ (if eof then [Wire.eof] else [])

/-- EOF has been delivered only if the sender has closed for good and everything was delivered -/
def EofOk (y : St) (seen : Nat) (eof : Bool) : Prop :=
  eof = true → Pair.closed y = true ∧ Started y ∧ seen = y.sent.length

structure PInv (p : Pair) : Prop where
  r : SInv p.r
  a : SInv p.a
  rreq : p.r.requestor = true
  areq : p.a.requestor = false
  fifo : Fifo p
  upc : p.r.connected = true → p.up = true
  upq : p.up = true → Started p.r
  boxA : InboxEof p.a p.rEof
  boxR : InboxEof p.r p.aEof
  eofR : EofOk p.r p.rSeen p.rEof
  eofA : EofOk p.a p.aSeen p.aEof

theorem pinv_init : PInv Pair.init := by
  refine { r := sinv_init true, a := sinv_init false, rreq := rfl, areq := rfl, fifo := fifo_init,
           upc := ?_, upq := ?_, boxA := ⟨[], (fun _ h => nomatch h), rfl⟩, boxR := ⟨[], (fun _ h => nomatch h), rfl⟩,
           eofR := ?_, eofA := ?_ }
  · intro h; cases h
  · intro h; cases h
  · intro h; cases h
  · intro h; cases h

theorem wireOf_ne_eof (f : Eff) : wireOf f ≠ .eof := by cases f <;> simp [wireOf]

theorem inboxEof_step {x : St} {eof : Bool} (st : Step) (hal : Pair.allowed st = true) (h : InboxEof x eof) :
    InboxEof (Dul.step x st) eof := by
  obtain ⟨l, hl, hi⟩ := h
  rcases (own_step x st hal).inbox with h' | ⟨w, hw, h'⟩
  · exact ⟨l, hl, by rw [h', hi]⟩
  · cases l with
    | nil =>
      exfalso
      rw [hi] at h'
      cases eof
      · simp at h'
      · simp only [List.nil_append, ↓reduceIte, List.cons.injEq] at h'
        exact hw h'.1.symm
    | cons y ys =>
      rw [hi] at h'
      simp only [List.cons_append, List.cons.injEq] at h'
      exact ⟨ys, fun w' hw' => hl w' (List.mem_cons_of_mem _ hw'), h'.2.symm⟩

/-- in Sta1 the socket object of a running reactor is connected just if the reactor is the acceptor's:
one whose flag says otherwise has left Sta1 -/
theorem started_of_conn {y : St} (hy : Core y) (h : y.kill = false → y.connected = y.requestor) : Started y := by
  by_cases hk : y.kill = true
  · exact Or.inl hk
  · have hk' : y.kill = false := by simpa using hk
    refine Or.inr fun h1 => ?_
    have := hy.nr hk' h1
    rw [h hk'] at this
    revert this
    cases y.requestor <;> simp

theorem eofOk_step {y : St} {seen : Nat} {eof : Bool} (st : Step) (hy : SInv y)
    (h : EofOk y seen eof) : EofOk (Dul.step y st) seen eof := by
  intro he
  obtain ⟨h1, h2, h3⟩ := h he
  obtain ⟨f1, f2⟩ := step_frozen y st hy h1 h2
  exact ⟨f1, step_started y st hy h2, by rw [f2]; exact h3⟩

theorem deliver_spec (snd rcv : St) (seen : Nat) (eof : Bool) (hs : SInv snd) (hr : SInv rcv)
    (hle : seen ≤ snd.sent.length) (hbox : InboxEof rcv eof) (heof : EofOk snd seen eof) (hstart : Pair.closed snd = true → Started snd) :
    SInv (Pair.deliver snd rcv seen eof).1 ∧
    InboxEof (Pair.deliver snd rcv seen eof).1 (Pair.deliver snd rcv seen eof).2.2 ∧
    EofOk snd (Pair.deliver snd rcv seen eof).2.1 (Pair.deliver snd rcv seen eof).2.2 := by
  obtain ⟨l, hl, hi⟩ := hbox
  rcases deliver_cases snd rcv seen eof with ⟨f, hf, hd⟩ | ⟨hnone, hc, he, hd⟩ | hd <;> rw [hd]
  · have hf' : snd.sent.reverse[seen]? = some f := hf
    obtain ⟨e, alt, hw, hpe, _, halt⟩ := wireOf_send f (hs.core.snt f (List.mem_reverse.mp (List.mem_of_getElem? hf')))
    have hg : GoodWire (wireOf f) := Or.inr ⟨e, alt, hw, hpe, halt⟩
    -- EOF is delivered last: after it nothing is left to deliver
    have hfalse : eof = false := by
      cases he : eof with
      | false => rfl
      | true =>
        rw [(heof he).2.2, List.getElem?_eq_none (by simp)] at hf'
        cases hf'
    subst hfalse
    refine ⟨sinv_step rcv (.env (.peer (wireOf f))) (goodWire_wireOk hg) (by simp) (fun w hw' => by cases hw'; exact hg) hr,
      ⟨l ++ [wireOf f], List.forall_mem_append.mpr ⟨hl, by simpa using wireOf_ne_eof f⟩, ?_⟩, fun he => nomatch he⟩
    · show rcv.inbox ++ [wireOf f] = _
      rw [hi]; simp
  · subst he
    refine ⟨sinv_step rcv (.env (.peer .eof)) rfl (by simp) (fun w hw' => by cases hw'; exact Or.inl rfl) hr,
      ⟨l, hl, ?_⟩, fun _ => ⟨hc, hstart hc, ?_⟩⟩
    · show rcv.inbox ++ [Wire.eof] = _
      rw [hi]; simp
    · have := List.getElem?_eq_none_iff.mp (show snd.sent.reverse[seen]? = none from hnone)
      rw [List.length_reverse] at this
      show seen = snd.sent.length
      omega
  · exact ⟨hr, ⟨l, hl, hi⟩, heof⟩

theorem noBreak_ne {st : Step} (h : Pair.noBreak (.r st) = true ∨ Pair.noBreak (.a st) = true) :
    st ≠ .env .breakConn := by
  intro hs; subst hs; rcases h with h | h <;> cases h
theorem allowed_not_peer {st : Step} (h : Pair.allowed st = true) (w : Wire) : st ≠ .env (.peer w) := by
  intro hs; subst hs; cases h

theorem pinv_step (p : Pair) (st : PStep) (hok : Pair.stepOk p st = true) (hnb : Pair.noBreak st = true)
    (h : PInv p) : PInv (Pair.step p st) := by
  have hfifo := fifo_step p st h.fifo
  rcases step_eq p st with e | ⟨s, hs, hal, e⟩ | ⟨s, hs, hal, hup, e⟩ | ⟨hup, e⟩ | ⟨hup, e⟩ <;> rw [e] at hfifo ⊢
  · exact h
  · subst hs
    have hr' : SInv (Dul.step p.r s) :=
      sinv_step p.r s hok (noBreak_ne (Or.inl hnb)) (fun w hw => absurd hw (allowed_not_peer hal w)) h.r
    have hreq' : (Dul.step p.r s).requestor = true := (own_step p.r s hal).requestor.trans h.rreq
    refine { r := hr', a := h.a, rreq := hreq', areq := h.areq, fifo := hfifo, upc := ?_, upq := ?_,
             boxA := h.boxA, boxR := inboxEof_step s hal h.boxR, eofR := eofOk_step s h.r h.eofR,
             eofA := h.eofA }
    · intro hc; show (p.up || (Dul.step p.r s).connected) = true; rw [hc]; simp
    · intro hup
      rcases (Bool.or_eq_true ..).mp hup with hu | hc
      · exact step_started p.r s h.r (h.upq hu)
      · exact started_of_conn hr'.core fun _ => hc.trans hreq'.symm
  · subst hs
    exact { r := h.r, a := sinv_step p.a s hok (noBreak_ne (Or.inr hnb)) (fun w hw => absurd hw (allowed_not_peer hal w)) h.a,
            rreq := h.rreq, areq := (own_step p.a s hal).requestor.trans h.areq, fifo := hfifo,
            upc := h.upc, upq := h.upq, boxA := inboxEof_step s hal h.boxA, boxR := h.boxR, eofR := h.eofR,
            eofA := eofOk_step s h.a h.eofA }
  · obtain ⟨d1, d2, d3⟩ := deliver_spec p.r p.a p.rSeen p.rEof h.r h.a h.fifo.ra.le h.boxA h.eofR (fun _ => h.upq hup)
    obtain ⟨l, hl⟩ := deliver_inbox p.r p.a p.rSeen p.rEof
    exact { r := h.r, a := d1, rreq := h.rreq, areq := by rw [hl]; exact h.areq, fifo := hfifo, upc := h.upc,
            upq := h.upq, boxA := d2, boxR := h.boxR, eofR := d3, eofA := by rw [hl]; exact h.eofA }
  · obtain ⟨d1, d2, d3⟩ := deliver_spec p.a p.r p.aSeen p.aEof h.a h.r h.fifo.ar.le h.boxR h.eofA
      (fun hc => started_of_conn h.a.core fun hk => by rw [h.areq]; simpa [Pair.closed, hk] using hc)
    obtain ⟨l, hl⟩ := deliver_inbox p.a p.r p.aSeen p.aEof
    exact { r := d1, a := h.a, rreq := by rw [hl]; exact h.rreq, areq := h.areq, fifo := hfifo,
            upc := by rw [hl]; exact h.upc, upq := by rw [hl]; exact h.upq,
            boxA := h.boxA, boxR := d2, eofR := by rw [hl]; exact h.eofR, eofA := d3 }

/-- admissible, and no step injects a send failure -/
def Pair.runAdm : Pair → List PStep → Bool
  | _, [] => true
  | p, st :: rest => Pair.stepOk p st && Pair.noBreak st && Pair.runAdm (Pair.step p st) rest

theorem runAdm_iff (p : Pair) (sched : List PStep) :
    Pair.runAdm p sched = (Pair.runOk p sched && sched.all Pair.noBreak) := by
  induction sched generalizing p with
  | nil => rfl
  | cons st rest ih =>
    simp only [Pair.runAdm, Pair.runOk, List.all_cons, ih]
    cases Pair.stepOk p st <;> cases Pair.noBreak st <;> simp

theorem runAdm_induct {P : Pair → Prop}
    (hstep : ∀ p st, Pair.stepOk p st = true → Pair.noBreak st = true → P p → P (Pair.step p st)) :
    ∀ (sched : List PStep) (p : Pair), Pair.runAdm p sched = true → P p → P (Pair.run p sched) := by
  intro sched
  induction sched with
  | nil => intro p _ h; exact h
  | cons st rest ih =>
    intro p hok h
    simp only [Pair.runAdm, Bool.and_eq_true] at hok
    exact ih _ hok.2 (hstep p st hok.1.1 hok.1.2 h)

theorem pinv_run : ∀ (sched : List PStep) (p : Pair), Pair.runAdm p sched = true → PInv p →
    PInv (Pair.run p sched) := runAdm_induct pinv_step

end PairL
end PynetVerif
