import PynetVerif.Lemmas.CmdRow
import PynetVerif.Gen.Cmd
/-!
What `Props/C17.lean` needs beside the lemmas: the Boolean comparisons of the model tables with
the tables regenerated from the source (`Gen/Cmd.lean`) that it states; `rows_ok`, the one
evaluation, over the 23 rows, of what `CmdRow.lean` and `C17_direction` ask of a row; and three
small helpers of its proofs (`forall_setter`, `kindOf_congr`, `respondsOk`).
-/
namespace PynetVerif.Cmd

/-- one (class, tag) line of the setter probe: the model's `store` reproduces every observed outcome -/
def probeOk (e : String × Nat × List (Nat × Option Nat)) : Bool :=
  match classes.find? (fun c => c.name == e.1) with
  | none => false
  | some c =>
    match c.setter? e.2.1 with
    | none => false
    | some s => e.2.2.all (fun io =>
        match Gen.Cmd.probeVals[io.1]? with
        | none => false
        | some raw =>
          store s raw == (match io.2 with | none => none | some j => Gen.Cmd.probeVals[j]?))

/-- the attributes of every primitive class, and which of them have a setter -/
def attrsOk : Bool :=
  classes.length == Gen.Cmd.primAttrs.length &&
  Gen.Cmd.primAttrs.all (fun e =>
    match classes.find? (fun c => c.name == e.1) with
    | none => false
    | some c => c.attrs.length == e.2.length &&
        e.2.all (fun tp => match c.setter? tp.1 with
          | none => false
          | some s => (s != .plain) == tp.2))

/-- a fresh primitive: the non-None parameters are exactly those observed -/
def defaultsOk : Bool :=
  Gen.Cmd.defaults.all (fun e =>
    match classes.find? (fun c => c.name == e.1) with
    | none => false
    | some c => (emptyPrim c).par e.2.1 == e.2.2) &&
  (classes.flatMap (fun c => vrTable.filter (fun e => (emptyPrim c).par e.1 != none))).length == Gen.Cmd.defaults.length

/-- `send_msg`'s choice of message class -/
def kindOk : Bool :=
  Gen.Cmd.rqToMessage.all (fun e =>
    match classes.find? (fun c => c.name == e.1) with
    | none => false
    | some c => (kindOf c (emptyPrim c)).map (·.name) == some e.2) &&
  Gen.Cmd.rspToMessage.all (fun e =>
    match classes.find? (fun c => c.name == e.1) with
    | none => false
    | some c => (kindOf c ((emptyPrim c).setPar 0x0120 (some (.int 1)))).map (·.name) == some e.2) &&
  classes.all (fun c => (kindOf c (emptyPrim c)).isSome == Gen.Cmd.rqToMessage.any (fun e => e.1 == c.name)) &&
  classes.all (fun c => (kindOf c ((emptyPrim c).setPar 0x0120 (some (.int 1)))).isSome ==
    Gen.Cmd.rspToMessage.any (fun e => e.1 == c.name))

/-- `lookup_forall` for the setters of a class, in the shape the goals have -/
theorem forall_setter (c : PrimClass) (P : Nat → Setter → Prop) (h : ∀ e ∈ c.attrs, P e.1 e.2) :
    ∀ t s, c.setter? t = some s → P t s :=
  fun _ _ => lookup_forall c.attrs P h

theorem kindOf_congr (cls : PrimClass) (p q : Prim) (h : (p.par 0x0120).isNone = (q.par 0x0120).isNone) :
    kindOf cls p = kindOf cls q := by
  unfold kindOf; simp only [h]

/-- a message type that `kindOf` picks for a primitive with a MessageIDBeingRespondedTo (a response,
or the C-CANCEL) carries that parameter -/
def respondsOk (r : Row) : Bool :=
  !(if r.cls.name == "C_CANCEL" then true else decide (r.field < 0x8000) == false) ||
    (r.keywords.contains 0x0120 && (r.cls.setter? 0x0120 == some .us16))

theorem rows_ok : ∀ r ∈ rows,
    r.wf = true ∧ rows.find? (fun x => x.field == r.field) = some r ∧ respondsOk r = true := by
  decide +kernel

end PynetVerif.Cmd
