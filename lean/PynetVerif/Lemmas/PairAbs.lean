import PynetVerif.Lemmas.ActEff
/-!
A finite abstraction of the product model, used to prove provider-level agreement
(`Props/C06Pair.lean`).  An abstract side keeps the provider's state, whether it has stopped, whether
its socket object is still connected, which terminal actions it has completed, and the PDU events it
has put on the wire that the other side has not dispatched yet (`out`: not yet delivered, in the
other side's inbox, or in its event queue) with runs of P-DATA collapsed to one token.  Queues of
local events, the ARTIM timer, indications and the log are abstracted away: any local event PS3.8
defines for the current state may be dispatched at any time — except A-ABORT requests while a
confirmation is outstanding (Sta5, Sta7, Sta11), which is the hypothesis of the agreement theorem.
-/
namespace PynetVerif
open Dul Fsm PairL

structure ASide where
  fsm : Nat
  kill : Bool
  conn : Bool
  rel : Bool          -- completed AR-3 or AR-4
  rej : Bool          -- completed AE-4, AE-8 (or AE-6 with a rejection)
  out : List Nat
  deriving DecidableEq, Repr

structure APair where
  r : ASide
  a : ASide
  up : Bool
  deriving DecidableEq, Repr

namespace Abs

/-- runs of P-DATA (event 10) collapsed to a single token -/
def collapse : List Nat → List Nat
  | [] => []
  | x :: xs => if x = 10 ∧ (collapse xs).head? = some 10 then collapse xs else x :: collapse xs

/-- append a token to a collapsed list -/
def push (out : List Nat) (t : Nat) : List Nat :=
  if t = 10 ∧ out.getLast? = some 10 then out else out ++ [t]

def init : APair :=
  { r := ⟨1, false, false, false, false, []⟩, a := ⟨1, false, true, false, false, []⟩, up := false }

def closed (x : ASide) : Bool := !x.conn || x.kill

/-- the abstract effect of the completed action `a` (next state `n`, effects `effs`) on a side;
`okc`: the outcome of the connect attempt if the action makes one -/
def applyAct (x : ASide) (a : Action) (effs : List Eff) (n : Nat) (okc : Bool) : ASide :=
  { fsm := n, kill := x.kill || n == 1,
    conn := if hasClose effs then false else if hasConnect effs then okc else x.conn,
    rel := x.rel || a == .AR_3 || a == .AR_4,
    rej := x.rej || a == .AE_4 || a == .AE_8 || (a == .AE_6 && n == 13),
    out := match (sendEff effs).bind tokOf with
      | some t => if x.conn then push x.out t else x.out
      | none => x.out }

/-- the abstract dispatch of event `e` by side `x` (requestor or not) -/
def dispatch (x : ASide) (requestor : Bool) (e : Nat) (okc : Bool) : Option ASide :=
  match lookup Spec.Ps38.table e x.fsm with
  | none => none
  | some a => some (applyAct x a (usedEffs a (effB a requestor false false).1) (effB a requestor false false).2 okc)

def disp (x : ASide) (requestor : Bool) (e : Nat) : List ASide :=
  [true, false].filterMap fun okc => dispatch x requestor e okc

/-- events a side may dispatch that do not come from the other side's PDUs -/
def localEvents : List Nat := [1, 2, 5, 7, 8, 9, 11, 14, 15, 18]

/-- a confirmation the local user asked for is outstanding -/
def awaiting (fsm : Nat) : Bool := fsm == 5 || fsm == 7 || fsm == 11

/-- local events: anything PS3.8 defines, except A-ABORT requests while a confirmation is outstanding -/
def locals (x y : ASide) (requestor : Bool) : List (ASide × ASide) :=
  localEvents.flatMap fun e =>
    if e == 15 && awaiting x.fsm then [] else (disp x requestor e).map fun x' => (x', y)

/-- the next PDU in flight from the peer -/
def fromPeer (x y : ASide) (requestor : Bool) : List (ASide × ASide) :=
  match y.out with
  | [] => []
  | t :: rest => (disp x requestor t).flatMap fun x' =>
    if t == 10 then [(x', { y with out := rest }), (x', y)] else [(x', { y with out := rest })]

/-- connection closed: own socket closed / send failed, connect failed (Sta4), or EOF after everything
the peer sent was dispatched -/
def onClose (x y : ASide) (requestor : Bool) : List (ASide × ASide) :=
  if !x.conn || x.fsm == 4 || (closed y && y.out.isEmpty) then (disp x requestor 17).map fun x' => (x', y) else []

/-- Sta13 with an idle socket: the socket object is closed -/
def idleClose (x y : ASide) : List (ASide × ASide) :=
  if x.fsm == 13 && x.conn then [({ x with conn := false }, y)] else []

/-- all abstract successors of side `x` against peer `y`: (x', y') -/
def sideSuccs (x y : ASide) (requestor : Bool) : List (ASide × ASide) :=
  if x.kill then [] else locals x y requestor ++ fromPeer x y requestor ++ onClose x y requestor ++ idleClose x y

def succs (p : APair) : List APair :=
  ((sideSuccs p.r p.a true).map fun xy => { r := xy.1, a := xy.2, up := p.up || xy.1.conn }) ++
  (if p.up then (sideSuccs p.a p.r false).map fun xy => { r := xy.2, a := xy.1, up := p.up } else [])

def outcome (x : ASide) : ProvOutcome := if x.rel then .released else if x.rej then .rejected else .aborted

def agreeEnded (p : APair) : Bool := !(p.r.kill && p.a.kill) || (outcome p.r).agree (outcome p.a)

/-! ### the reachable set, computed -/

def insertAll (seen : List APair) : List APair → List APair × List APair
  | [] => (seen, [])
  | q :: qs => if seen.contains q then insertAll seen qs else
      let r := insertAll (q :: seen) qs
      (r.1, q :: r.2)

def bfs : Nat → List APair → List APair → List APair
  | 0, _, seen => seen
  | _, [], seen => seen
  | f + 1, p :: w, seen =>
    let r := insertAll seen (succs p)
    bfs f (r.2 ++ w) r.1

/-- the abstract states reachable from `init` -/
def R : List APair := bfs 500 [init] [init]

end Abs
end PynetVerif
