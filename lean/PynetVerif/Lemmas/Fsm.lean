import PynetVerif.Model.Fsm
/-!
`Fsm.lookup` through a states × events grid.  Kernel evaluation of `lookup t e s` scans the table
with a Boolean test per entry, and a whole-table theorem does that thousands of times.  The grid of
a closed table is a closed term: the kernel evaluates each of its cells at most once (it remembers
the weak head normal form of every closed subterm), so a theorem that first rewrites its lookups
with `← lookupG_eq` pays one scan per cell and two short list walks per lookup.
-/
namespace PynetVerif.Fsm

theorem lookup_filter (t : List (Nat × Nat × Action)) (e s : Nat) :
    lookup (t.filter (·.2.1 == s)) e s = lookup t e s := by
  unfold lookup
  rw [List.find?_filter]
  congr 2
  funext r
  cases r.1 == e <;> cases r.2.1 == s <;> rfl

/-- row `s`, column `e`: the action for event `e` in state `s` (states below 14, events below 20);
a row is computed from the entries of its state only -/
def grid (t : List (Nat × Nat × Action)) : List (List (Option Action)) :=
  (List.range 14).map fun s => (List.range 20).map fun e => lookup (t.filter (·.2.1 == s)) e s

/-- `lookup`, through the grid where the grid has a cell -/
def lookupG (t : List (Nat × Nat × Action)) (e s : Nat) : Option Action :=
  match (grid t)[s]? with
  | some row => match row[e]? with
    | some c => c
    | none => lookup t e s
  | none => lookup t e s

theorem lookupG_eq (t : List (Nat × Nat × Action)) (e s : Nat) : lookupG t e s = lookup t e s := by
  unfold lookupG grid
  split
  · rename_i row h
    split
    · rename_i c h2
      simp only [List.getElem?_map, Option.map_eq_some_iff] at h
      obtain ⟨s', hs, rfl⟩ := h
      simp only [List.getElem?_map, Option.map_eq_some_iff] at h2
      obtain ⟨e', he, rfl⟩ := h2
      obtain ⟨_, rfl⟩ := List.getElem?_eq_some_iff.mp hs
      obtain ⟨_, rfl⟩ := List.getElem?_eq_some_iff.mp he
      simp only [List.getElem_range]
      exact lookup_filter t e s
    · rfl
  · rfl

end PynetVerif.Fsm
