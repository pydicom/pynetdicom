import PynetVerif.Model.Nego
import PynetVerif.Spec.Roles
/-!
Facts about `SCP_SCU_ROLES` as regenerated from the source (`Gen.Roles.table`),
each checked entry by entry; the bridge between the code's table and the
documented one (`Spec.Roles`).
-/
namespace PynetVerif.Nego
open Spec.Roles

/-- the keys `SCP_SCU_ROLES` is documented (in its comment) to have: 5 requestor pairs -/
def rqKeys : List RolePair :=
  [(none, none), (some true, some true), (some true, some false), (some false, some true), (some false, some false)]

/-- … each with all 9 acceptor pairs -/
def acKeys : List RolePair :=
  [(none, none), (none, some true), (none, some false), (some true, none), (some false, none),
   (some true, some true), (some true, some false), (some false, some false), (some false, some true)]

/-- a role pair as a documented role-selection item (`(None, None)` = no item) -/
def toItem : RolePair → Item
  | (some a, some b) => some (a, b)
  | _ => none

/-- an outcome as the 4-tuple the code stores: (requestor scu, scp, acceptor scu, scp) -/
def enc (o : Outcome) : Bool × Bool × Bool × Bool :=
  (o.requestor.1, o.requestor.2, o.acceptor.1, o.acceptor.2)

theorem enc_acceptor_false {oc : Outcome} : ((enc oc).2.2.1 = false ∧ (enc oc).2.2.2 = false) ↔ oc = .rejected := by
  cases oc <;> decide

/-- an acceptor that did not specify both roles answers with no role item: the default row -/
theorem documented_of_none {rq : Item} {cfg : Config} (h : cfg.1 = none ∨ cfg.2 = none) :
    documented rq cfg = some .default := by
  obtain ⟨cu, cp⟩ := cfg
  rcases h with h | h <;> simp only at h <;> subst h
  · cases rq <;> cases cp <;> rfl
  · cases rq <;> cases cu <;> rfl

theorem table_doc : ∀ rq ∈ rqKeys, ∀ ac ∈ acKeys,
    ∃ oc, documented (toItem rq) ac = some oc ∧ tableLookup rq ac = .ok (enc oc) := by
  intro rq hrq ac hac
  simp only [rqKeys, acKeys, List.mem_cons, List.not_mem_nil, or_false] at hrq hac
  rcases hrq with rfl | rfl | rfl | rfl | rfl <;>
    rcases hac with rfl | rfl | rfl | rfl | rfl | rfl | rfl | rfl | rfl <;> exact ⟨_, rfl, rfl⟩

theorem table_bool (a b cu cp : Bool) : ∃ oc, documented (some (a, b)) (some cu, some cp) = some oc ∧
    tableLookup (some a, some b) (some cu, some cp) = .ok (enc oc) :=
  table_doc (some a, some b) (by cases a <;> cases b <;> decide) (some cu, some cp) (by cases cu <;> cases cp <;> decide)

theorem table_none (cu cp : Bool) : tableLookup (none, none) (some cu, some cp) = .ok (true, false, false, true) := by
  cases cu <;> cases cp <;> rfl

/-- role answers are capped by the proposal (`replyItem`), and the requestor evaluating the capped answer
reaches the complementary outcome -/
theorem table_complementary (a b cu cp : Bool) {uid : Nat} {o o' : Bool × Bool × Bool × Bool}
    (h : tableLookup (some a, some b) (some cu, some cp) = .ok o) (hacc : ¬ (o.2.2.1 = false ∧ o.2.2.2 = false))
    (h' : tableLookup (some a, some b) (some (replyItem uid (some a, some b) cu cp).scu,
      some (replyItem uid (some a, some b) cu cp).scp) = .ok o') :
    o'.1 = o.2.2.2 ∧ o'.2.1 = o.2.2.1 := by
  -- `cases h` puts the entry in for `o`: it contradicts `hacc`, or `cases h'` finds its counterpart
  cases a <;> cases b <;> cases cu <;> cases cp <;> cases h <;>
    first | exact absurd ⟨rfl, rfl⟩ hacc | (cases h'; exact ⟨rfl, rfl⟩)

/-- unrestricted mode: the acceptor evaluates the proposal against (True, True) and echoes the
proposal; the requestor evaluating the echo reaches the complementary outcome -/
theorem table_unrestricted (a b : Bool) {o o' : Bool × Bool × Bool × Bool}
    (h : tableLookup (some a, some b) (some true, some true) = .ok o)
    (h' : tableLookup (some a, some b) (some a, some b) = .ok o') : o'.1 = o.2.2.2 ∧ o'.2.1 = o.2.2.1 := by
  cases a <;> cases b <;> cases h <;> cases h' <;> exact ⟨rfl, rfl⟩

theorem table_unrestricted_role (a b : Bool) {o : Bool × Bool × Bool × Bool}
    (h : tableLookup (some a, some b) (some true, some true) = .ok o) (hne : ¬ (a = false ∧ b = false)) :
    o.2.2.1 = true ∨ o.2.2.2 = true := by
  cases a <;> cases b <;> cases h <;> first | exact absurd ⟨rfl, rfl⟩ hne | decide

end PynetVerif.Nego
