import PynetVerif.Model.Status
/-
Run-length encoded tables `(lo, hi, value)`.  C28 uses the second half: `contiguous` (a Bool the
kernel evaluates on the whole table), `contiguous_cover`, `lookup_of_mem_contiguous` (there the
first match of `Status.lookup` is the only one) and `covered_spec`; `Status.lookup_some` is used
by the status tables of Lemmas/Scp.lean.  The first half, a bounded universal
quantifier as a kernel-evaluable Bool with the lemma that lifts `= true` to the `∀` statement
(`allFrom`, `runsAll`), has no user here; it is what a table check over big ranges would use.
-/
namespace PynetVerif

/-- `allFrom lo n p` = `p lo && p (lo+1) && … && p (lo+n-1)`. -/
def allFrom (lo : Nat) : Nat → (Nat → Bool) → Bool
  | 0, _ => true
  | n + 1, p => p (lo + n) && allFrom lo n p

theorem allFrom_spec (p : Nat → Bool) : ∀ (n lo : Nat), allFrom lo n p = true →
    ∀ c, lo ≤ c → c < lo + n → p c = true := by
  intro n
  induction n with
  | zero => intro lo _ c h1 h2; omega
  | succ n ih =>
    intro lo h c h1 h2
    simp only [allFrom, Bool.and_eq_true] at h
    by_cases hc : c = lo + n
    · subst hc; exact h.1
    · exact ih lo h.2 c (by omega) (by omega)

/-- every run `(lo, hi, v)` of a run-length encoded table satisfies `p c v` on all its codes -/
def runsAll (p : Nat → Nat → Bool) : List (Nat × Nat × Nat) → Bool
  | [] => true
  | (lo, hi, v) :: rs => allFrom lo (hi + 1 - lo) (fun c => p c v) && runsAll p rs

theorem runsAll_spec (p : Nat → Nat → Bool) : ∀ (rs : List (Nat × Nat × Nat)), runsAll p rs = true →
    ∀ r ∈ rs, ∀ c, r.1 ≤ c → c ≤ r.2.1 → p c r.2.2 = true := by
  intro rs
  induction rs with
  | nil => intro _ r hr; cases hr
  | cons x xs ih =>
    obtain ⟨lo, hi, v⟩ := x
    intro h r hr c h1 h2
    simp only [runsAll, Bool.and_eq_true] at h
    cases hr with
    | head => exact allFrom_spec _ _ _ h.1 c h1 (by simp at h2 ⊢; omega)
    | tail _ hm => exact ih h.2 r hm c h1 h2

/-- the runs are non-empty, sorted, adjacent, and cover exactly `[start, stop)` -/
def contiguous : List (Nat × Nat × Nat) → Nat → Nat → Bool
  | [], start, stop => start == stop
  | (lo, hi, _) :: rs, start, stop => lo == start && lo ≤ hi && contiguous rs (hi + 1) stop

theorem contiguous_bounds (rs : List (Nat × Nat × Nat)) (start stop : Nat)
    (h : contiguous rs start stop = true) : ∀ r ∈ rs, start ≤ r.1 ∧ r.1 ≤ r.2.1 ∧ r.2.1 < stop := by
  induction rs generalizing start with
  | nil => intro r hr; cases hr
  | cons x xs ih =>
    obtain ⟨lo, hi, v⟩ := x
    simp only [contiguous, Bool.and_eq_true, beq_iff_eq, decide_eq_true_eq] at h
    obtain ⟨⟨rfl, hle⟩, hrest⟩ := h
    have hstop : hi + 1 ≤ stop := by
      cases xs with
      | nil => simp [contiguous] at hrest; omega
      | cons y ys => have := ih _ hrest y List.mem_cons_self; omega
    intro r hr
    cases hr with
    | head => exact ⟨Nat.le_refl _, hle, hstop⟩
    | tail _ hm => have := ih _ hrest r hm; omega

theorem contiguous_cover (rs : List (Nat × Nat × Nat)) (start stop : Nat)
    (h : contiguous rs start stop = true) (c : Nat) (h1 : start ≤ c) (h2 : c < stop) :
    ∃ r ∈ rs, r.1 ≤ c ∧ c ≤ r.2.1 := by
  induction rs generalizing start with
  | nil => simp [contiguous] at h; omega
  | cons x xs ih =>
    obtain ⟨lo, hi, v⟩ := x
    simp only [contiguous, Bool.and_eq_true, beq_iff_eq, decide_eq_true_eq] at h
    obtain ⟨⟨rfl, -⟩, hrest⟩ := h
    by_cases hc : c ≤ hi
    · exact ⟨_, List.mem_cons_self, h1, hc⟩
    · obtain ⟨r, hr, h'⟩ := ih _ hrest (by omega)
      exact ⟨r, List.mem_cons_of_mem _ hr, h'⟩

theorem Status.lookup_some (rs : List (Nat × Nat × Nat)) (c v : Nat) (h : Status.lookup rs c = some v) :
    ∃ r ∈ rs, r.1 ≤ c ∧ c ≤ r.2.1 ∧ r.2.2 = v := by
  induction rs with
  | nil => simp [Status.lookup] at h
  | cons x xs ih =>
    obtain ⟨lo, hi, w⟩ := x
    simp only [Status.lookup] at h
    split at h
    next hc => exact ⟨_, List.mem_cons_self, hc.1, hc.2, by simpa using h⟩
    next =>
      obtain ⟨r, hr, h'⟩ := ih h
      exact ⟨r, List.mem_cons_of_mem _ hr, h'⟩

/-- In a contiguous table a code inside run `r` is inside no other run, so the first match is `r`. -/
theorem lookup_of_mem_contiguous (rs : List (Nat × Nat × Nat)) (start stop : Nat)
    (h : contiguous rs start stop = true) (r : Nat × Nat × Nat) (hr : r ∈ rs) (c : Nat)
    (h1 : r.1 ≤ c) (h2 : c ≤ r.2.1) :
    Status.lookup rs c = some r.2.2 ∧ ∀ r' ∈ rs, r'.1 ≤ c → c ≤ r'.2.1 → r' = r := by
  induction rs generalizing start with
  | nil => cases hr
  | cons x xs ih =>
    obtain ⟨lo, hi, v⟩ := x
    simp only [contiguous, Bool.and_eq_true, beq_iff_eq, decide_eq_true_eq] at h
    -- every later run starts after `hi`
    have hlater := contiguous_bounds xs _ _ h.2
    cases hr with
    | head =>
      refine ⟨by simp [Status.lookup, h1, h2], fun r' hr' a b => ?_⟩
      cases hr' with
      | head => rfl
      | tail _ hm => have := hlater r' hm; simp at h2; omega
    | tail _ hm =>
      have hr := hlater r hm
      obtain ⟨ih1, ih2⟩ := ih _ h.2 hm
      refine ⟨?_, fun r' hr' a b => ?_⟩
      · have : ¬(lo ≤ c ∧ c ≤ hi) := by omega
        simp [Status.lookup, this, ih1]
      · cases hr' with
        | head => simp at b; omega
        | tail _ hm' => exact ih2 r' hm' a b

/-- run `(lo, hi, v)` lies inside one run of `rs` that carries the same value -/
def covered (rs : List (Nat × Nat × Nat)) (q : Nat × Nat × Nat) : Bool :=
  rs.any (fun m => Nat.ble m.1 q.1 && Nat.ble q.2.1 m.2.1 && Nat.beq m.2.2 q.2.2)

theorem covered_spec (rs : List (Nat × Nat × Nat)) (start stop : Nat)
    (hc : contiguous rs start stop = true) (q : Nat × Nat × Nat) (hq : covered rs q = true)
    (c : Nat) (h1 : q.1 ≤ c) (h2 : c ≤ q.2.1) :
    Status.lookup rs c = some q.2.2 := by
  obtain ⟨m, hm, hcond⟩ := List.any_eq_true.mp hq
  simp only [Bool.and_eq_true, Nat.ble_eq] at hcond
  obtain ⟨⟨a, b⟩, e⟩ := hcond
  rw [← Nat.eq_of_beq_eq_true e]
  exact (lookup_of_mem_contiguous rs start stop hc m hm c (by omega) (by omega)).1

end PynetVerif
