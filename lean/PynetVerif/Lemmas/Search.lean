/-!
A worklist search for a finite set closed under a successor function, with the one fact that makes
its result usable in a proof: if it ends before its fuel does, what it returns is closed.  The
kernel then evaluates the search once, and no second pass over the result is needed to check closure.

The search asks a *visited set* whether a state is new.  All that is needed of its answers is that a
"seen before" is true; a set that forgets costs duplicates, not soundness.
-/
namespace PynetVerif.Search
variable {α σ : Type}

/-- a representation `σ` of the set of states seen so far -/
structure Visited (α σ : Type) where
  empty : σ
  mem : α → σ → Bool
  add : α → σ → σ
  /-- every state the set `s` reports as seen is in the list `l` -/
  Holds : σ → List α → Prop
  sound : ∀ {s l q}, Holds s l → mem q s = true → q ∈ l
  empty_holds : Holds empty []
  add_holds : ∀ {s l} (q : α), Holds s l → Holds (add q s) (q :: l)

/-- the states seen, in `n` lists by the number `bucket` gives them, each searched with `eqb`
(`n = 1` for one list) -/
def Visited.lists (n : Nat) (bucket : α → Nat) (eqb : α → α → Bool) (h : ∀ x y, eqb x y = true → x = y) :
    Visited α (List (List α)) where
  empty := List.replicate n []
  mem q s := (s.getD (bucket q % n) []).any (eqb · q)
  add q s := s.modify (bucket q % n) (q :: ·)
  Holds s l := ∀ i, ∀ x ∈ s.getD i [], x ∈ l
  sound hs hq := by
    obtain ⟨y, hy, e⟩ := List.any_eq_true.mp hq
    exact h _ _ e ▸ hs _ y hy
  empty_holds i x hx := by
    rw [List.getD_eq_getElem?_getD, List.getElem?_replicate] at hx
    split at hx <;> cases hx
  add_holds q hs i x hx := by
    rw [List.getD_eq_getElem?_getD, List.getElem?_modify] at hx
    have := hs i
    rw [List.getD_eq_getElem?_getD] at this
    cases hb : (_ : List (List α))[i]? with
    | none => rw [hb] at hx; cases hx
    | some b =>
      rw [hb] at hx this
      simp only [Option.map_eq_map, Option.map_some, Option.getD_some] at hx this
      split at hx
      · exact (List.mem_cons.mp hx).elim (· ▸ List.mem_cons_self ..) fun hx => List.mem_cons_of_mem _ (this x hx)
      · exact List.mem_cons_of_mem _ (this x hx)

/-- a bit mask over the numbers an injective `key` gives the states: kernel evaluation tests and
sets a bit of a number literal in one step -/
def Visited.bits (key : α → Nat) (h : ∀ x y, key x = key y → x = y) : Visited α Nat where
  empty := 0
  mem q s := s.testBit (key q)
  add q s := s ||| 1 <<< key q
  Holds s l := ∀ q, s.testBit (key q) = true → q ∈ l
  sound hs hq := hs _ hq
  add_holds q hs x hx := by
    rw [Nat.testBit_or, Bool.or_eq_true, Nat.testBit_shiftLeft, Bool.and_eq_true, decide_eq_true_eq,
      Nat.testBit_one_eq_true_iff_self_eq_zero] at hx
    rcases hx with hx | hx
    · exact List.mem_cons_of_mem _ (hs x hx)
    · exact h x q (by omega) ▸ List.mem_cons_self ..
  empty_holds q hq := by simp at hq

variable (V : Visited α σ)

def take (r : List α × σ) (q : α) : List α × σ :=
  if V.mem q r.2 then r else (q :: r.1, V.add q r.2)

/-- the new ones among `qs` (most recent first), and the set with them added -/
def fresh (s : σ) (qs : List α) : List α × σ := qs.foldl (take V) ([], s)

/-- explore from the worklist `w`; `none` if the fuel runs out before the worklist does (each unit of
fuel expands one state, so the fuel must exceed the number of states found: a fuel too small shows
as a `check` that evaluates to `false`) -/
def close (succs : α → List α) : Nat → List α → σ → List α → Option (List α)
  | 0, _, _, _ => none
  | _ + 1, [], _, seen => some seen
  | f + 1, p :: w, s, seen =>
    close succs f ((fresh V s (succs p)).1 ++ w) (fresh V s (succs p)).2 ((fresh V s (succs p)).1 ++ seen)

theorem foldl_take {seen : List α} : ∀ (qs : List α) (r : List α × σ), V.Holds r.2 (r.1 ++ seen) →
    V.Holds (qs.foldl (take V) r).2 ((qs.foldl (take V) r).1 ++ seen) ∧
    ∀ q, q ∈ qs ∨ q ∈ r.1 ++ seen → q ∈ (qs.foldl (take V) r).1 ++ seen := by
  intro qs
  induction qs with
  | nil => intro r hr; exact ⟨hr, fun q hq => hq.resolve_left (nomatch ·)⟩
  | cons x xs ih =>
    intro r hr
    rw [List.foldl_cons]
    have hx : V.Holds (take V r x).2 ((take V r x).1 ++ seen) ∧ x ∈ (take V r x).1 ++ seen ∧
        ∀ q ∈ r.1 ++ seen, q ∈ (take V r x).1 ++ seen := by
      unfold take
      split
      · exact ⟨hr, V.sound hr ‹_›, fun _ hq => hq⟩
      · exact ⟨V.add_holds x hr, List.mem_cons_self .., fun _ hq => List.mem_cons_of_mem _ hq⟩
    refine ⟨(ih _ hx.1).1, fun q hq => (ih _ hx.1).2 q ?_⟩
    rcases hq with hq | hq
    · exact (List.mem_cons.mp hq).elim (fun e => Or.inr (e ▸ hx.2.1)) Or.inl
    · exact Or.inr (hx.2.2 q hq)

/-- **what the search returns is closed** — given that, at the start, everything seen is still on the
worklist or has all its successors seen -/
theorem close_closed (succs : α → List α) : ∀ (f : Nat) (w : List α) (s : σ) (seen S : List α),
    close V succs f w s seen = some S → V.Holds s seen →
    (∀ x ∈ w, x ∈ seen) → (∀ x ∈ seen, x ∈ w ∨ ∀ y ∈ succs x, y ∈ seen) →
    (∀ x ∈ seen, x ∈ S) ∧ ∀ x ∈ S, ∀ y ∈ succs x, y ∈ S := by
  intro f
  induction f with
  | zero => intro w s seen S h; cases h
  | succ f ih =>
    intro w s seen S h hV hw hs
    cases w with
    | nil => cases h; exact ⟨fun _ hx => hx, fun x hx => (hs x hx).resolve_left (nomatch ·)⟩
    | cons p w =>
      obtain ⟨hV', hp⟩ := foldl_take V (succs p) ([], s) hV
      replace hp := fun q hq => hp q (Or.inl hq)
      obtain ⟨c1, c2⟩ := ih _ _ _ S h hV'
        (fun x hx => (List.mem_append.mp hx).elim (List.mem_append_left _)
          fun hx => List.mem_append_right _ (hw x (List.mem_cons_of_mem _ hx)))
        (fun x hx => by
          rcases List.mem_append.mp hx with hx | hx
          · exact Or.inl (List.mem_append_left _ hx)
          · rcases hs x hx with hx | hc
            · rcases List.mem_cons.mp hx with rfl | hx
              · exact Or.inr hp
              · exact Or.inl (List.mem_append_right _ hx)
            · exact Or.inr fun y hy => List.mem_append_right _ (hc y hy))
      exact ⟨fun x hx => c1 x (List.mem_append_right _ hx), c2⟩

/-- what the search from `i` finds (nothing if its fuel runs out) -/
def reach (succs : α → List α) (f : Nat) (i : α) : List α :=
  (close V succs f [i] (V.add i V.empty) [i]).getD []

/-- the search from `i` ends, and `good` holds of all it finds: one Boolean, for the kernel to evaluate -/
def check (succs : α → List α) (f : Nat) (i : α) (good : α → Bool) : Bool :=
  (close V succs f [i] (V.add i V.empty) [i]).any (·.all good)

theorem reach_spec {succs : α → List α} {f : Nat} {i : α} {good : α → Bool} (h : check V succs f i good = true) :
    i ∈ reach V succs f i ∧ (∀ x ∈ reach V succs f i, ∀ y ∈ succs x, y ∈ reach V succs f i) ∧
      ∀ x ∈ reach V succs f i, good x = true := by
  unfold check at h
  unfold reach
  cases hS : close V succs f [i] (V.add i V.empty) [i] with
  | none => rw [hS] at h; cases h
  | some S =>
    rw [hS] at h
    obtain ⟨c1, c2⟩ := close_closed V succs f [i] _ [i] S hS (V.add_holds i V.empty_holds)
      (fun _ hx => hx) (fun _ hx => Or.inl hx)
    exact ⟨c1 i (List.mem_cons_self ..), c2, List.all_eq_true.mp h⟩

end PynetVerif.Search
