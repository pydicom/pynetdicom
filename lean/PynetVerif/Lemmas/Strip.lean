import PynetVerif.Model.Policy
/-
`str.strip` and the acceptance policy (C13, C14).  The first part holds the facts about `lstrip` / `rstrip` /
`strip p` for any character class `p`; the strip functions of the other models (`Pdu.pyStrip`,
`Cmd.rstripBy`, `Cmd.stripSp`) are shown equal to these where they are used (`Lemmas/PduBytes.lean`,
`Lemmas/CmdBytes.lean`) and take their facts from here.  The second part is about the policy model: `strip`
under a change of the character class, and the verdict of `decideAssoc` once the title fields decode.
-/
namespace PynetVerif.Policy

theorem dropWhile_all {p : UInt8 → Bool} (l : Title) (h : l.all p = true) : l.dropWhile p = [] := by
  simpa using List.dropWhile_append_of_pos (l₂ := []) (List.all_eq_true.mp h)

theorem rstrip_pad {p : UInt8 → Bool} (t post : Title) (h : post.all p = true) :
    rstrip p (t ++ post) = rstrip p t := by
  unfold rstrip
  rw [List.reverse_append, List.dropWhile_append_of_pos]
  simpa using h

theorem rstrip_nil {p : UInt8 → Bool} : rstrip p [] = [] := rfl

theorem strip_pad {p : UInt8 → Bool} (pre t post : Title) (h1 : pre.all p = true)
    (h2 : post.all p = true) : strip p (pre ++ t ++ post) = strip p t := by
  unfold strip lstrip
  rw [List.append_assoc, List.dropWhile_append_of_pos (List.all_eq_true.mp h1), List.dropWhile_append]
  by_cases he : (List.dropWhile p t).isEmpty = true
  · have hnil : List.dropWhile p t = [] := by simpa using he
    simp [hnil, dropWhile_all post h2]
  · simp only [he]
    exact rstrip_pad _ _ h2

/-- the recursion a right strip follows when it is written from the front of the list -/
theorem rstrip_cons (p : UInt8 → Bool) (c : UInt8) (l : Title) :
    rstrip p (c :: l) = match rstrip p l with
      | [] => if p c then [] else [c]
      | r => c :: r := by
  unfold rstrip
  rw [List.reverse_cons, List.dropWhile_append]
  cases h : l.reverse.dropWhile p with
  | nil => by_cases hc : p c <;> simp [hc]
  | cons x xs => simp

theorem rstrip_append (p : UInt8 → Bool) (a b : Title) :
    rstrip p (a ++ b) = if rstrip p b = [] then rstrip p a else a ++ rstrip p b := by
  simp only [rstrip, List.reverse_append, List.dropWhile_append, List.reverse_eq_nil_iff, List.isEmpty_iff]
  split <;> simp

theorem rstrip_prefix (p : UInt8 → Bool) (l : Title) : rstrip p l <+: l := by
  rw [rstrip, ← List.reverse_suffix, List.reverse_reverse]
  exact List.dropWhile_suffix p

theorem strip_sublist (p : UInt8 → Bool) (l : Title) : (strip p l).Sublist l :=
  (rstrip_prefix _ _).sublist.trans (List.dropWhile_sublist _)

theorem mem_dropWhile_of_not {p : UInt8 → Bool} {x : UInt8} {l : Title} (hx : x ∈ l) (hp : p x = false) :
    x ∈ l.dropWhile p := by
  induction l with
  | nil => cases hx
  | cons a as ih =>
    rw [List.dropWhile_cons]
    split
    · next ha => exact ih ((List.mem_cons.mp hx).resolve_left fun e => by rw [e, ha] at hp; cases hp)
    · exact hx

theorem mem_strip_of_not {p : UInt8 → Bool} {x : UInt8} {l : Title} (hx : x ∈ l) (hp : p x = false) :
    x ∈ strip p l :=
  List.mem_reverse.mpr (mem_dropWhile_of_not (List.mem_reverse.mpr (mem_dropWhile_of_not hx hp)) hp)

theorem strip_ends (p : UInt8 → Bool) (l : Title) :
    (∀ x ∈ (strip p l).head?, p x = false) ∧ ∀ x ∈ (strip p l).getLast?, p x = false := by
  constructor
  · -- a non-empty prefix of `l.dropWhile p` starts as `l.dropWhile p` does
    obtain ⟨u, hu⟩ : ∃ u, strip p l ++ u = l.dropWhile p := rstrip_prefix p (lstrip p l)
    intro x hx
    have hd := List.head?_dropWhile_not p l
    cases hs : strip p l with
    | nil => rw [hs] at hx; cases hx
    | cons a t =>
      rw [hs] at hx; cases hx
      rw [hs] at hu
      rw [← hu] at hd
      exact hd
  · intro x hx
    have hd := List.head?_dropWhile_not p (lstrip p l).reverse
    rw [strip, rstrip, List.getLast?_reverse] at hx
    rw [Option.mem_def.mp hx] at hd
    exact hd

theorem strip_eq_self {p : UInt8 → Bool} {l : Title} (h1 : ∀ x ∈ l.head?, p x = false)
    (h2 : ∀ x ∈ l.getLast?, p x = false) : strip p l = l := by
  have hl : ∀ {m : Title}, (∀ x ∈ m.head?, p x = false) → m.dropWhile p = m := fun {m} h => by
    cases m with
    | nil => rfl
    | cons a t => rw [List.dropWhile_cons_of_neg]; simp [h a rfl]
  rw [strip, lstrip, hl h1, rstrip, hl (by rwa [List.head?_reverse]), List.reverse_reverse]

theorem strip_idem (p : UInt8 → Bool) (l : Title) : strip p (strip p l) = strip p l :=
  strip_eq_self (strip_ends p l).1 (strip_ends p l).2
theorem dropWhile_congr {p q : UInt8 → Bool} (l : Title) (h : ∀ x ∈ l, p x = q x) :
    l.dropWhile p = l.dropWhile q := by
  induction l with
  | nil => rfl
  | cons a as ih =>
    rw [List.dropWhile_cons, List.dropWhile_cons, h a (List.mem_cons_self ..),
      ih fun x hx => h x (List.mem_cons_of_mem _ hx)]

theorem strip_congr {p q : UInt8 → Bool} (t : Title) (h : ∀ x ∈ t, p x = q x) :
    strip p t = strip q t := by
  unfold strip lstrip rstrip
  rw [dropWhile_congr t h]
  rw [dropWhile_congr (p := p) (q := q)]
  intro x hx
  exact h x (List.dropWhile_subset _ (List.mem_reverse.mp hx))

theorem mem_strip {p : UInt8 → Bool} {x : UInt8} {t : Title} (h : x ∈ strip p t) : x ∈ t :=
  (strip_sublist p t).subset h

theorem isPyWs_eq_isSpace_of_not_control (c : UInt8) (h : isControl c = false) :
    isPyWs c = isSpace c := by
  unfold isControl at h
  unfold isPyWs isSpace
  simp only [Bool.or_eq_false_iff, decide_eq_false_iff_not, UInt8.not_lt] at h
  have h1 : ¬ c ≤ 0x0d := by
    intro hc; have := UInt8.le_trans h.1 hc; exact absurd this (by decide)
  have h2 : ¬ c ≤ 0x1f := by
    intro hc; have := UInt8.le_trans h.1 hc; exact absurd this (by decide)
  simp [h1, h2]

/-- a title the API validated (`set_ae`) is stripped alike by `str.strip()` and by a spaces-only strip -/
theorem pyStrip_eq_spStrip_of_valid (t : Title) (h : validAE t = true) : pyStrip t = spStrip t := by
  apply strip_congr
  intro x hx
  apply isPyWs_eq_isSpace_of_not_control
  unfold validAE at h
  simp only [Bool.and_eq_true, Bool.not_eq_true', List.any_eq_false] at h
  have := h.1.2 x hx
  simpa using this

theorem isPyWs_lt_128 (c : UInt8) (h : isPyWs c = true) : c < 0x80 := by
  unfold isPyWs at h
  simp only [Bool.or_eq_true, Bool.and_eq_true, decide_eq_true_eq, beq_iff_eq] at h
  rcases h with (h | h) | h
  · subst h; decide
  · exact UInt8.lt_of_le_of_lt h.2 (by decide)
  · exact UInt8.lt_of_le_of_lt h.2 (by decide)

theorem decodeTitle_pad (pre raw post : Bytes) (h1 : pre.all isPyWs = true)
    (h2 : post.all isPyWs = true) : decodeTitle (pre ++ raw ++ post) = decodeTitle raw := by
  have hp : ∀ l : Bytes, l.all isPyWs = true → l.any (· ≥ 0x80) = false := by
    intro l hl
    simp only [List.any_eq_false, decide_eq_true_eq]
    intro x hx hge
    have := isPyWs_lt_128 x (List.all_eq_true.mp hl x hx)
    exact absurd (UInt8.lt_of_lt_of_le this hge) (UInt8.lt_irrefl _)
  unfold decodeTitle
  simp only [List.any_append, hp pre h1, hp post h2, Bool.false_or, Bool.or_false]
  simp only [pyStrip, strip_pad pre raw post h1 h2]

theorem replicate_space_all (n : Nat) : (List.replicate n (0x20 : UInt8)).all isPyWs = true := by
  simp [List.all_replicate, isPyWs]

theorem decodeTitle_eq_pyStrip {raw : Bytes} {t : Title} (h : decodeTitle raw = some t) :
    t = pyStrip raw := by
  unfold decodeTitle at h
  split at h
  · cases h
  · simp only at h
    split at h
    · cases h
    · split at h
      · exact (Option.some.inj h).symm
      · cases h

theorem decideAssoc_of_valid {p : Policy} {callingRaw calledRaw : Bytes} {identity : Option Identity}
    {active : Nat} (hv : decideAssoc p callingRaw calledRaw identity active ≠ .invalid) :
    decideAssoc p callingRaw calledRaw identity active =
      (negotiate p (pyStrip callingRaw) (pyStrip calledRaw) identity active).elim .accept .reject := by
  unfold decideAssoc at hv ⊢
  split at hv
  · rename_i hcd hcg
    rw [decodeTitle_eq_pyStrip hcd, decodeTitle_eq_pyStrip hcg]
    cases negotiate p (pyStrip callingRaw) (pyStrip calledRaw) identity active <;> rfl
  · exact absurd rfl hv

theorem overLimit_false_iff (active max : Nat) : overLimit active max = false ↔ active ≤ max := by
  unfold overLimit
  rw [Bool.eq_false_iff, ne_eq, Nat.blt_eq]
  omega

theorem overLimit_iff (active max : Nat) : overLimit active max = true ↔ max < active := by
  rw [overLimit, Nat.blt_eq]

/-- the limit check is the last to be evaluated: when it fails, its triple is the verdict -/
theorem negotiate_overLimit (p : Policy) (calling called : Title) (identity : Option Identity)
    {active : Nat} (h : overLimit active p.maxAssoc = true) :
    negotiate p calling called identity active = some (2, 3, 2) := by
  simp only [negotiate, h, if_true]

end PynetVerif.Policy
