import PynetVerif.Lemmas.Pair
/-!
What an action does to the socket object, to the wire and to the event queue, as a fold over its
effect list on a three-field projection of the reactor state (`EffP`), and the finite facts about
that fold for the effect lists of PS3.8 (`Spec.Ps38.effects`).
-/
namespace PynetVerif
open Dul Fsm

namespace PairL

/-- projection of the reactor state an effect list acts on: the socket object's connected flag, the
PDUs newly put on the wire (most recent first), the events newly queued -/
structure EffP where
  conn : Bool
  sent : List Eff
  q : List Nat
  deriving DecidableEq, Repr

/-- `applyEff` on the projection, for a connection that is not broken; `ok`: the next connect succeeds -/
def stepP (ok : Bool) (p : EffP) (f : Eff) : EffP :=
  if isSend f then (if p.conn then { p with sent := f :: p.sent } else { p with q := p.q ++ [17] })
  else match f with
    | .close => if p.conn then { p with conn := false, q := p.q ++ [17] } else p
    | .connect => if ok then { p with conn := true } else p
    | _ => p

def runP (ok c : Bool) (l : List Eff) : EffP := l.foldl (stepP ok) ⟨c, [], []⟩

theorem applyEff_proj (s : St) (f : Eff) (hb : s.broken = false) (p : EffP) (bs : List Eff) (bq : List Nat)
    (hc : s.connected = p.conn) (hs : s.sent = p.sent ++ bs) (hq : s.eventQ = bq ++ p.q) :
    (applyEff s f).connected = (stepP s.connectOk p f).conn ∧
    (applyEff s f).sent = (stepP s.connectOk p f).sent ++ bs ∧
    (applyEff s f).eventQ = bq ++ (stepP s.connectOk p f).q := by
  by_cases hsend : isSend f = true
  · -- a PDU: on the wire if the socket object is connected, Evt17 if not
    simp only [applyEff, stepP, hsend, hb, ← hc, ↓reduceIte, Bool.not_false, Bool.and_true]
    cases s.connected <;> simp [hs, hq]
  · -- of the other effects only `close` and `connect` touch one of the three fields
    cases f <;> first | exact absurd rfl hsend | skip
    all_goals simp only [applyEff, stepP, isSend, isInd, closeSock, ← hc, Bool.false_eq_true, ↓reduceIte]
    all_goals first | exact ⟨trivial, hs, hq⟩ | (split <;> simp [hs, hq, hc])

theorem foldl_applyEff_proj (effs : List Eff) : ∀ (s : St) (p : EffP) (bs : List Eff) (bq : List Nat),
    s.broken = false → s.connected = p.conn → s.sent = p.sent ++ bs → s.eventQ = bq ++ p.q →
    (effs.foldl applyEff s).connected = (effs.foldl (stepP s.connectOk) p).conn ∧
    (effs.foldl applyEff s).sent = (effs.foldl (stepP s.connectOk) p).sent ++ bs ∧
    (effs.foldl applyEff s).eventQ = bq ++ (effs.foldl (stepP s.connectOk) p).q := by
  induction effs with
  | nil => intro s p bs bq _ hc hs hq; exact ⟨hc, hs, hq⟩
  | cons f fs ih =>
    intro s p bs bq hb hc hs hq
    obtain ⟨h1, h2, h3⟩ := applyEff_proj s f hb p bs bq hc hs hq
    have := ih (applyEff s f) (stepP s.connectOk p f) bs bq (by rw [(applyEff_same s f).eq]; exact hb) h1 h2 h3
    rw [show (applyEff s f).connectOk = s.connectOk by rw [(applyEff_same s f).eq]] at this
    exact this

theorem act_proj (s : St) (a : Action) (e : Nat) (hb : s.broken = false) :
    (act s a e).connected = (runP s.connectOk s.connected (usedEffs a (effectsOf s a e).1)).conn ∧
    (act s a e).sent = (runP s.connectOk s.connected (usedEffs a (effectsOf s a e).1)).sent ++ s.sent ∧
    (act s a e).eventQ = s.eventQ ++ (runP s.connectOk s.connected (usedEffs a (effectsOf s a e).1)).q ++
      (if ((a = .DT_2 || a = .AR_6) && altOf s a e) = true then [19] else []) ∧
    (act s a e).broken = false := by
  obtain ⟨h1, h2, h3⟩ := foldl_applyEff_proj (usedEffs a (effectsOf s a e).1) (popInputs s a) ⟨s.connected, [], []⟩ s.sent s.eventQ
    (by rw [popInputs_eq]; exact hb) (by rw [popInputs_eq]) (by rw [popInputs_eq]; rfl) (by rw [popInputs_eq]; simp)
  rw [show (popInputs s a).connectOk = s.connectOk by rw [popInputs_eq]] at h1 h2 h3
  refine ⟨?_, ?_, ?_, ?_⟩
  · rw [act_def]; exact h1
  · rw [act_def]; exact h2
  · rw [act_def]
    show (applied s a e).eventQ ++ _ = _
    rw [show (applied s a e).eventQ = _ from h3]
    rfl
  · rw [act_eq]; exact hb

def allActions : List Action :=
  [.AE_1, .AE_2, .AE_3, .AE_4, .AE_5, .AE_6, .AE_7, .AE_8, .DT_1, .DT_2, .AR_1, .AR_2, .AR_3, .AR_4, .AR_5,
   .AR_6, .AR_7, .AR_8, .AR_9, .AR_10, .AA_1, .AA_2, .AA_3, .AA_4, .AA_5, .AA_6, .AA_7, .AA_8]
theorem mem_allActions (a : Action) : a ∈ allActions := by cases a <;> decide

/-- what `runP ok c` computes (`r`) on an effect list `l` of the action `a`, in closed form -/
structure RunPSpec (a : Action) (ok c : Bool) (l : List Eff) (r : EffP) : Prop where
  conn : r.conn = if hasClose l then false else if hasConnect l then (c || ok) else c
  /-- at most one PDU, and only through a connected socket object -/
  sent : r.sent = match sendEff l with | some f => if c then [f] else [] | none => []
  q17 : ∀ x ∈ r.q, x = 17
  /-- whatever queues Evt17 leaves the socket object closed -/
  qClosed : r.q ≠ [] → r.conn = false
  /-- only AE-1 connects -/
  stayClosed : a ≠ .AE_1 → c = false → r.conn = false
  sends : ∀ f ∈ r.sent, isSend f = true

instance (a : Action) (ok c : Bool) (l : List Eff) (r : EffP) : Decidable (RunPSpec a ok c l r) :=
  decidable_of_iff' _ ⟨fun h => And.intro h.conn <| And.intro h.sent <| And.intro h.q17 <| And.intro h.qClosed <|
      And.intro h.stayClosed h.sends,
    fun ⟨h1, h2, h3, h4, h5, h6⟩ => ⟨h1, h2, h3, h4, h5, h6⟩⟩

theorem runP_all : ∀ a ∈ allActions, ∀ req alt b ok c : Bool,
    RunPSpec a ok c (usedEffs a (effB a req alt b).1) (runP ok c (usedEffs a (effB a req alt b).1)) := by
  decide +kernel

theorem runP_table (a : Action) (req alt b ok c : Bool) :
    RunPSpec a ok c (usedEffs a (effB a req alt b).1) (runP ok c (usedEffs a (effB a req alt b).1)) :=
  runP_all a (mem_allActions a) req alt b ok c

/-- except for AE-6 (protocol version), what matters of an action's effects — the PDU event it sends,
whether it closes, whether it connects, the next state — does not depend on the input's `alt` bit
nor on which event triggered it -/
theorem effs_indep : ∀ a ∈ allActions, ∀ req alt b : Bool, (a = .AE_6 → alt = false) →
    (sendEff (usedEffs a (effB a req alt b).1)).bind tokOf = (sendEff (usedEffs a (effB a req false false).1)).bind tokOf ∧
    hasClose (usedEffs a (effB a req alt b).1) = hasClose (usedEffs a (effB a req false false).1) ∧
    hasConnect (usedEffs a (effB a req alt b).1) = hasConnect (usedEffs a (effB a req false false).1) ∧
    (effB a req alt b).2 = (effB a req false false).2 := by decide +kernel

theorem wireOf_send (f : Eff) (h : isSend f = true) : ∃ e alt, wireOf f = .pdu e alt ∧ pduEv e = true ∧
    tokOf f = some e ∧ (alt = true → e = 16) := by
  revert h
  cases f <;> intro h <;> first | exact Bool.noConfusion h | exact ⟨_, _, rfl, rfl, rfl, by simp⟩

theorem sendEff_isSend {l : List Eff} {f : Eff} (h : sendEff l = some f) : isSend f = true := by
  unfold sendEff at h
  have := List.mem_of_mem_head? (by rw [h]; rfl : f ∈ (l.filter isSend).head?)
  exact (List.mem_filter.mp this).2

end PairL
end PynetVerif
