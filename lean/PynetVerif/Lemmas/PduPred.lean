import PynetVerif.Lemmas.PduBytes
/-! How the predicates of `Model/PduWf.lean` are related: `wf ⇒ encOk`, `bounded ∧ normal ⇒ encOk` (with
`canon` the identity), `wf ⇒ normal`, `normal ⇒ encodable`; each by the same walk over the syntax / user
sub-items, the variable items and the PDU. -/
namespace PynetVerif.Pdu

theorem all_imp {α : Type} {p q : α → Bool} {xs : List α} (hpq : ∀ x, p x = true → q x = true)
    (h : xs.all p = true) : xs.all q = true := by
  rw [List.all_eq_true] at h ⊢
  exact fun x hx => hpq x (h x hx)

theorem aeRqOk_length {a : Bytes} (h : aeRqOk a = true) : a.length ≤ 16 := by
  simp only [aeRqOk, Bool.and_eq_true, Nat.ble_eq] at h; exact h.1.1.2

theorem aeAcOk_length {a : Bytes} (h : aeAcOk a = true) : a.length ≤ 16 := by
  simp only [aeAcOk, Bool.and_eq_true, Nat.ble_eq] at h; exact h.2

theorem uidOk_of_wf {u : Bytes} (h : uidWf u = true) : uidOk true u = true := by
  simp only [uidWf, Bool.and_eq_true] at h; exact h.1

theorem uidWf_len {u : Bytes} (h : uidWf u = true) : u.length ≤ 64 ∧ u.isEmpty = false := by
  simp only [uidWf, uidOk, uidB, Bool.and_eq_true, Bool.not_true, Bool.false_or, Nat.ble_eq, Bool.not_eq_true'] at h
  exact ⟨h.1.1.2, h.2⟩

theorem lt16_of_wf {u : Bytes} (h : uidWf u = true) : lt16 u.length = true := by
  have := (uidWf_len h).1; rw [lt16_iff]; omega

theorem synOk_of_wf {s : SynItem} (h : synWf s = true) : synOk false s = true := by
  cases s <;> simp_all [synWf, synOk, uidOk_of_wf, lt16_of_wf]

/-- dropping the validation of a transfer syntax can only accept more -/
theorem synOk_skip {s : SynItem} (k : Bool) (h : synOk false s = true) : synOk k s = true := by
  cases s <;> cases k <;> simp_all [synOk, uidOk, uidB]

theorem userOk_of_wf {s : UserSub} (h : userWf s = true) : userOk s = true := by
  cases s <;> simp_all [userWf, userOk, uidOk_of_wf, lt8_iff]
  -- `relOk` is `uidWf` unfolded
  case commonExt v sop svc rel => exact fun u hu => h.1.2 u hu
  case userIdRq t r p s => omega

theorem ctxId_lt {id : Nat} (h : ctxIdOk id = true) : id < 256 := by
  simp only [ctxIdOk, Bool.and_eq_true, Nat.ble_eq] at h; omega

theorem varOk_of_wf {v : VarItem} (h : varWf v = true) : varOk v = true := by
  cases v with
  | appCtx u => simp only [varOk, uidOk_of_wf h, lt16_of_wf h, Bool.and_self]
  | pcRq id subs =>
    simp only [varWf, Bool.and_eq_true] at h
    simp only [varOk, Bool.and_eq_true, lt8_iff]
    exact ⟨⟨ctxId_lt h.1.1.1, all_imp (fun _ => synOk_of_wf) h.1.1.2⟩, h.1.2⟩
  | pcAc id res subs =>
    simp only [varWf, Bool.and_eq_true, Nat.ble_eq] at h
    obtain ⟨⟨⟨hid, hres⟩, hs⟩, hshape⟩ := h
    match subs, hs, hshape with
    | [t], hs, _ =>
      simp only [List.all_cons, List.all_nil, Bool.and_true] at hs
      -- the one sub-item is a header and a UID of at most 64 bytes
      have hlen : (encSyn t).length < 65532 := by
        cases t <;> (have := (uidWf_len hs).1; simp only [encSyn, tlv_length]; omega)
      simp only [varOk, Bool.and_eq_true, lt8_iff, List.all_cons, List.all_nil, Bool.and_true,
        List.length_cons, List.length_nil, Nat.ble_eq, List.flatMap_cons, List.flatMap_nil,
        List.append_nil, Nat.blt_eq]
      exact ⟨⟨⟨⟨ctxId_lt hid, by omega⟩, synOk_skip _ (synOk_of_wf hs)⟩, by omega⟩, hlen⟩
  | userInfo subs =>
    simp only [varWf, Bool.and_eq_true] at h
    simp only [varOk, Bool.and_eq_true]
    refine ⟨all_imp (fun s hs => ?_) h.1, h.2⟩
    simp only [Bool.and_eq_true] at hs ⊢
    exact ⟨userOk_of_wf hs.1, hs.2⟩

theorem aeRqOk_of_wf {a : Bytes} (h : aeWf a = true) : aeRqOk a = true := by
  simp only [aeWf, Bool.and_eq_true, Nat.ble_eq] at h
  obtain ⟨⟨hl, hc⟩, hs⟩ := h
  have hasc : isAscii a = true := by
    simp only [isAscii, List.all_eq_true] at hc ⊢
    intro c hcm
    have := hc c hcm
    simp only [aeCharOk, Bool.and_eq_true, decide_eq_true_eq] at this ⊢
    omega
  -- a legal character other than the space is no whitespace, so it survives stripping
  have hne : pyStrip a ≠ [] := by
    obtain ⟨c, hcm, hcs⟩ := List.any_eq_true.mp hs
    have hcok := List.all_eq_true.mp hc c hcm
    have hnws : isWs c = false := by
      simp only [aeCharOk, Bool.and_eq_true, decide_eq_true_eq, bne_iff_ne, ne_eq] at hcok
      have hc32 : c.toNat ≠ 32 := by
        intro h32
        apply (bne_iff_ne.mp hcs)
        exact UInt8.toNat_inj.mp (by simpa using h32)
      simp only [isWs, Bool.or_eq_false_iff, Bool.and_eq_false_iff, decide_eq_false_iff_not]
      constructor
      · right; omega
      · right; omega
    exact List.ne_nil_of_mem (pyStrip_eq a ▸ Policy.mem_strip_of_not hcm hnws)
  simp only [aeRqOk, Bool.and_eq_true, Nat.ble_eq, Bool.not_eq_true', List.isEmpty_eq_false_iff]
  exact ⟨⟨⟨hasc, hl⟩, hne⟩, all_pyStrip hc⟩

theorem encOk_of_wf (p : PDU) (h : wf p = true) : encOk p = true := by
  cases p with
  | rq ver called calling items =>
    simp only [wf, Bool.and_eq_true] at h
    simp only [encOk, Bool.and_eq_true]
    exact ⟨⟨⟨⟨h.1.1.1.1, aeRqOk_of_wf h.1.1.1.2⟩, aeRqOk_of_wf h.1.1.2⟩, all_imp (fun _ => varOk_of_wf) h.1.2⟩, h.2⟩
  | ac ver called calling items =>
    simp only [wf, Bool.and_eq_true] at h
    simp only [encOk, Bool.and_eq_true]
    exact ⟨⟨⟨⟨h.1.1.1.1, h.1.1.1.2⟩, h.1.1.2⟩, all_imp (fun _ => varOk_of_wf) h.1.2⟩, h.2⟩
  | rj r s d =>
    simp only [wf, rjWf, Bool.and_eq_true, Bool.or_eq_true, beq_iff_eq] at h
    simp only [encOk, Bool.and_eq_true, lt8_iff]
    omega
  | pdata pdvs =>
    simp only [wf, Bool.and_eq_true] at h
    simp only [encOk, Bool.and_eq_true]
    refine ⟨all_imp (fun p hp => ?_) h.1, h.2⟩
    simp only [pdvWf, Bool.and_eq_true] at hp
    simp only [pdvOk, Bool.and_eq_true, lt8_iff]
    exact ⟨ctxId_lt hp.1, hp.2⟩
  | relRq => rfl
  | relRp => rfl
  | abort s r =>
    simp only [wf, abortWf, Bool.and_eq_true, Bool.or_eq_true, beq_iff_eq, lt8_iff] at h
    simp only [encOk, Bool.and_eq_true, lt8_iff]
    omega

theorem synOk_of_bn {k : Bool} {s : SynItem} (hb : synB k s = true) (hn : synN s = true) : synOk k s = true := by
  cases s <;> simp_all [synB, synN, synOk, uidOk]

theorem relOk_of_bn {u : Bytes} (hb : relB u = true) (hn : (!endsNul u) = true) : relOk u = true := by
  simp_all [relB, relOk, uidOk]

theorem userOk_of_bn {s : UserSub} (hb : userB s = true) (hn : userN s = true) : userOk s = true := by
  cases s <;> simp_all [userB, userN, userOk, uidOk]
  case commonExt v sop svc rel => exact fun u hu => relOk_of_bn (hb.2 u hu) (by simpa using hn.1.2 u hu)

theorem varOk_of_bn {v : VarItem} (hb : varB v = true) (hn : varN v = true) : varOk v = true := by
  cases v <;> simp_all [varB, varN, varOk, uidOk]
  case pcRq id subs => exact fun s hs => synOk_of_bn (hb.2 s hs) (hn.1 s hs)
  case pcAc id res subs => exact fun s hs => synOk_of_bn (hb.2 s hs) (hn.1.1 s hs)
  case userInfo subs => exact fun s hs => userOk_of_bn (hb s hs) (hn.1 s hs).1

theorem encOk_of_bounded_normal (p : PDU) (hb : bounded p = true) (hn : normal p = true) :
    encOk p = true ∧ canon p = p := by
  cases p <;> simp_all [bounded, normal, encOk, canon, pyStrip_of_trimmed, pdvOk]
  case rq ver called calling items => exact fun v hv => varOk_of_bn (hb.2 v hv) (hn.1 v hv)
  case ac ver called calling items => exact fun v hv => varOk_of_bn (hb.2 v hv) (hn.1 v hv)

theorem not_endsNul_of_wf {u : Bytes} (h : uidWf u = true) : endsNul u = false := by
  simp only [uidWf, uidOk, Bool.and_eq_true, Bool.not_eq_true'] at h
  exact h.1.2

theorem synN_of_wf {s : SynItem} (h : synWf s = true) : synN s = true := by
  cases s <;> simp_all [synWf, synN, not_endsNul_of_wf, lt16_of_wf, (uidWf_len _).2]

theorem userN_of_wf {s : UserSub} (h : userWf s = true) : userN s = true := by
  cases s <;> simp_all [userWf, userN, not_endsNul_of_wf]

theorem varN_of_wf {v : VarItem} (h : varWf v = true) : varN v = true := by
  have hok := varOk_of_wf h
  cases v <;> simp_all [varWf, varOk, varN, not_endsNul_of_wf, lt16_of_wf]
  case pcRq id subs => exact fun s hs => synN_of_wf (h.1.1.2 s hs)
  case pcAc id res subs => exact fun s hs => synN_of_wf (h.1.2 s hs)
  case userInfo subs => exact fun s hs => userN_of_wf (h.1 s hs).1

theorem normal_of_wf (p : PDU) (h : wf p = true) : normal p = true := by
  cases p <;> simp_all [wf, normal, pdvWf]
  case rq ver called calling items => exact fun v hv => varN_of_wf (h.1.2 v hv)
  case ac ver called calling items => exact fun v hv => varN_of_wf (h.1.2 v hv)

theorem encodable_of_normal (p : PDU) (h : normal p = true) : encodable p = true := by
  have hs : ∀ s, synN s = true → synEncodable s = true := fun s hs => by
    cases s <;> simp_all [synN, synEncodable]
  have hv : ∀ v, varN v = true → varEncodable v = true := fun v hv => by
    cases v <;> simp_all [varN, varEncodable]
  cases p <;> simp_all [normal, encodable]

end PynetVerif.Pdu
