import PynetVerif.Model.Framing
namespace PynetVerif.Framing

theorem noTimeout_pop {ks ks' : List RR} {r : RR} (hp : pop ks = (r, ks')) (h : NoTimeout ks) :
    r ≠ .timeout ∧ NoTimeout ks' := by
  cases ks with
  | nil => cases hp; exact ⟨nofun, h⟩
  | cons r₀ ks₀ =>
    cases hp
    exact ⟨h r (List.mem_cons_self ..), fun x hx => h x (List.mem_cons_of_mem _ hx)⟩

theorem recv1_some {rest b rest' : Bytes} {r : RR} {bufsize : Nat}
    (h : recv1 rest r bufsize = some (b, rest')) :
    b = rest.take b.length ∧ rest' = rest.drop b.length ∧ b.length ≤ bufsize ∧
      (b = [] → bufsize ≠ 0 → rest = []) := by
  cases r with
  | timeout => cases h
  | got k =>
    cases h
    generalize hm : min (min (k + 1) bufsize) rest.length = m
    have hl : (rest.take m).length = m := by rw [List.length_take]; omega
    rw [hl]
    refine ⟨rfl, rfl, by omega, fun hb hn => List.eq_nil_of_length_eq_zero ?_⟩
    rw [hb] at hl
    simp only [List.length_nil] at hl
    omega

/-- One induction over the receive loop gives both what it returns whenever it returns, for ANY oracle
(timeouts included), and that it does return when no read times out. -/
theorem recvN_spec (fuel : Nat) (rest : Bytes) (ks : List RR) (need : Nat) (acc : Bytes) :
    (NoTimeout ks → (recvN fuel rest ks need acc).isSome) ∧
    ∀ out rest' ks', recvN fuel rest ks need acc = some (out, rest', ks') →
      ∃ m, (need ≤ fuel → m = need) ∧ out = acc ++ rest.take m ∧ rest' = rest.drop m ∧
        (NoTimeout ks → NoTimeout ks') := by
  fun_induction recvN fuel rest ks need acc with
  | case1 | case2 =>
    refine ⟨fun _ => rfl, ?_⟩
    rintro _ _ _ ⟨⟩
    exact ⟨0, by omega, by simp, rfl, id⟩
  | case3 fuel rest ks need acc _ r ks₁ hp hr =>
    refine ⟨fun hnt => ?_, nofun⟩
    cases r with
    | timeout => exact absurd rfl (noTimeout_pop hp hnt).1
    | got k => cases hr
  | case4 fuel rest ks need acc hn r ks₁ hp rest₁ hr =>
    -- an empty read: the stream is at its end, so "the next `need` bytes" are none
    refine ⟨fun _ => rfl, ?_⟩
    rintro _ _ _ ⟨⟩
    obtain ⟨-, h2, -, h4⟩ := recv1_some hr
    have := h4 rfl (by omega)
    subst this
    exact ⟨need, fun _ => rfl, by simp, by simpa using h2, fun h => (noTimeout_pop hp h).2⟩
  | case5 fuel rest ks need acc hn r ks₁ hp b rest₁ hr hb ih =>
    obtain ⟨h1, h2, h3, -⟩ := recv1_some hr
    have hpos := List.length_pos_iff.mpr hb
    refine ⟨fun hnt => ih.1 (noTimeout_pop hp hnt).2, fun out rest' ks' h => ?_⟩
    obtain ⟨m, hf, ho, hr', hk⟩ := ih.2 out rest' ks' h
    refine ⟨b.length + m, by omega, ?_, ?_, fun hnt => hk (noTimeout_pop hp hnt).2⟩
    · rw [ho, h2, List.take_add, ← h1, List.append_assoc]
    · rw [hr', h2, List.drop_drop]

/-- The socket receive loop returns exactly the next `need` bytes (or all that is left), whatever
the sizes of the individual reads. -/
theorem recvN_take (fuel : Nat) : ∀ (rest : Bytes) (ks : List RR) (need : Nat) (acc : Bytes),
    need ≤ fuel → NoTimeout ks →
    ∃ ks', NoTimeout ks' ∧
      recvN fuel rest ks need acc = some (acc ++ rest.take need, rest.drop need, ks') := by
  intro rest ks need acc hf hnt
  obtain ⟨h1, h2⟩ := recvN_spec fuel rest ks need acc
  obtain ⟨⟨out, rest', ks'⟩, h⟩ := Option.isSome_iff_exists.mp (h1 hnt)
  obtain ⟨m, hm, rfl, rfl, hk⟩ := h2 _ _ _ h
  exact ⟨ks', hk hnt, by rw [h, hm hf]⟩

theorem recv_take (rest : Bytes) (ks : List RR) (n : Nat) (hnt : NoTimeout ks) :
    ∃ ks', NoTimeout ks' ∧ recv rest ks n = some (rest.take n, rest.drop n, ks') := by
  obtain ⟨ks', h1, h2⟩ := recvN_take n rest ks n [] (Nat.le_refl _) hnt
  exact ⟨ks', h1, by simpa [recv] using h2⟩

theorem recv_some {rest out rest' : Bytes} {ks ks' : List RR} {n : Nat}
    (h : recv rest ks n = some (out, rest', ks')) : out = rest.take n ∧ rest' = rest.drop n := by
  obtain ⟨m, hm, h1, h2, -⟩ := (recvN_spec n rest ks n []).2 _ _ _ h
  rw [hm (Nat.le_refl _)] at h1 h2
  exact ⟨h1, h2⟩

theorem ofNat_toNat8 (a : UInt8) : UInt8.ofNat a.toNat = a := UInt8.ofNat_toNat

/-! `omega` is slow on divisions by 2^16 and 2^24; the proofs about `be32` go through base-256 digits. -/

theorem div_65536 (n : Nat) : n / 65536 = n / 256 / 256 := by rw [Nat.div_div_eq_div_mul]
theorem div_16777216 (n : Nat) : n / 16777216 = n / 256 / 256 / 256 := by
  rw [Nat.div_div_eq_div_mul, Nat.div_div_eq_div_mul]

theorem div_mod_256 (x d : Nat) (h : d < 256) : (x * 256 + d) / 256 = x ∧ (x * 256 + d) % 256 = d := by
  omega

theorem be32_mk (n : Nat) (h : n < 4294967296) :
    be32 (UInt8.ofNat (n / 16777216)) (UInt8.ofNat (n / 65536 % 256)) (UInt8.ofNat (n / 256 % 256))
      (UInt8.ofNat (n % 256)) = n := by
  have h3 : n / 16777216 < 256 := Nat.div_lt_of_lt_mul h
  simp only [be32, UInt8.toNat_ofNat', Nat.mod_mod, Nat.reducePow, Nat.mod_eq_of_lt h3]
  rw [div_16777216, div_65536, Nat.div_add_mod', Nat.div_add_mod', Nat.div_add_mod']

theorem be32_inv (a b c d : UInt8) :
    let n := be32 a b c d
    UInt8.ofNat (n / 16777216) = a ∧ UInt8.ofNat (n / 65536 % 256) = b ∧
    UInt8.ofNat (n / 256 % 256) = c ∧ UInt8.ofNat (n % 256) = d ∧ n < 4294967296 := by
  have ha := a.toNat_lt; have hb := b.toNat_lt; have hc := c.toNat_lt; have hd := d.toNat_lt
  simp only [be32, div_65536, div_16777216, div_mod_256 _ _ hd, div_mod_256 _ _ hc, div_mod_256 _ _ hb,
    UInt8.ofNat_toNat, true_and]
  omega

theorem readPdu_mk (t r : UInt8) (body more : Bytes) (ks : List RR) (ht : validType t = true)
    (hl : body.length < 4294967296) (hnt : NoTimeout ks) :
    ∃ ks', NoTimeout ks' ∧ readPdu (mkPdu t r body ++ more) ks = (.pdu (mkPdu t r body), more, ks') := by
  obtain ⟨ks1, hnt1, h1⟩ := recv_take (mkPdu t r body ++ more) ks 6 hnt
  have hlen := be32_mk body.length hl
  obtain ⟨ks2, hnt2, h2⟩ := recv_take (body ++ more) ks1 body.length hnt1
  refine ⟨ks2, hnt2, ?_⟩
  unfold readPdu
  rw [h1]
  simp only [mkPdu, List.cons_append, List.nil_append, List.take_succ_cons, List.take_zero,
    List.drop_succ_cons, List.drop_zero, ht, ↓reduceIte, hlen]
  rw [h2]
  simp

theorem readPdu_cases {rest rest' : Bytes} {ks ks' : List RR} {f : Frame}
    (h : readPdu rest ks = (f, rest', ks')) :
    f = .closed ∨
    ∃ t r a b c d tl, rest = t :: r :: a :: b :: c :: d :: tl ∧
      ((validType t = false ∧ f = .unrecognised [t, r, a, b, c, d] ∧ rest' = tl) ∨
       (validType t = true ∧ be32 a b c d ≤ tl.length ∧
          f = .pdu ([t, r, a, b, c, d] ++ tl.take (be32 a b c d)) ∧ rest' = tl.drop (be32 a b c d))) := by
  unfold readPdu at h
  split at h
  · cases h; exact .inl rfl
  · rename_i hdr rest1 ks1 h6
    obtain ⟨rfl, rfl⟩ := recv_some h6
    split at h
    · rename_i t r a b c d he
      have e : rest = t :: r :: a :: b :: c :: d :: rest.drop 6 := by
        rw [← List.take_append_drop 6 rest, he]; rfl
      split at h
      · rename_i hv
        dsimp only at h
        split at h
        · cases h; exact .inl rfl
        · rename_i body rest2 ks2 hb
          obtain ⟨rfl, rfl⟩ := recv_some hb
          split at h
          · rename_i hl
            rw [List.length_take] at hl
            cases h
            exact .inr ⟨t, r, a, b, c, d, _, e, .inr ⟨hv, by omega, by rw [he], rfl⟩⟩
          · cases h; exact .inl rfl
      · rename_i hv
        cases h
        exact .inr ⟨t, r, a, b, c, d, _, e, .inl ⟨by simpa using hv, by rw [he], rfl⟩⟩
    · cases h; exact .inl rfl

/-- `struct.error` in `_read_pdu_data`: the stream ends inside the header -/
theorem readPdu_short {rest : Bytes} (ks : List RR) (h : rest.length < 6) : (readPdu rest ks).1 = .closed := by
  rcases readPdu_cases (rfl : readPdu rest ks = (_, _, _)) with hc | ⟨t, r, a, b, c, d, tl, rfl, -⟩
  · exact hc
  · simp only [List.length_cons] at h
    omega

/-- a connection that closes part-way through a PDU (header or body) is reported closed -/
theorem readPdu_strict_prefix (t r : UInt8) (body pre suf : Bytes) (ks : List RR)
    (ht : validType t = true) (hl : body.length < 4294967296) (hs : suf ≠ [])
    (hp : pre ++ suf = mkPdu t r body) : (readPdu pre ks).1 = .closed := by
  rcases readPdu_cases (rfl : readPdu pre ks = (_, _, _)) with h | ⟨t', r', a, b, c, d, tl, rfl, h⟩
  · exact h
  · -- the header is there in full, so it is that of `mkPdu t r body`; what follows it is too short
    simp only [mkPdu, List.cons_append, List.nil_append, List.cons.injEq] at hp
    obtain ⟨rfl, rfl, rfl, rfl, rfl, rfl, hb⟩ := hp
    rcases h with ⟨hv, -⟩ | ⟨-, hle, -⟩
    · rw [ht] at hv
      cases hv
    · have := List.length_pos_iff.mpr hs
      rw [be32_mk _ hl, ← hb, List.length_append] at hle
      omega

theorem frames_succ (fuel : Nat) (rest : Bytes) (ks : List RR) :
    frames (fuel + 1) rest ks =
      if (readPdu rest ks).1 = .closed then [.closed]
      else (readPdu rest ks).1 :: frames fuel (readPdu rest ks).2.1 (readPdu rest ks).2.2 := by
  rw [frames]
  split <;> simp_all

def Frame.Sound : Frame → Prop
  | .pdu b => ∃ t r body, validType t = true ∧ body.length < 4294967296 ∧ b = mkPdu t r body
  | .unrecognised h => ∃ t r a b c d, h = [t, r, a, b, c, d] ∧ validType t = false
  | .closed => True

theorem readPdu_sound {rest rest' : Bytes} {ks ks' : List RR} {f : Frame}
    (h : readPdu rest ks = (f, rest', ks')) : (f = .closed ∨ rest = f.bytes ++ rest') ∧ f.Sound := by
  rcases readPdu_cases h with rfl | ⟨t, r, a, b, c, d, tl, e, ⟨hv, rfl, rfl⟩ | ⟨hv, hl, rfl, rfl⟩⟩
  · exact ⟨.inl rfl, trivial⟩
  · exact ⟨.inr e, t, r, a, b, c, d, rfl, hv⟩
  · obtain ⟨i1, i2, i3, i4, i5⟩ := be32_inv a b c d
    have hlen : (tl.take (be32 a b c d)).length = be32 a b c d := by rw [List.length_take]; omega
    refine ⟨.inr ?_, t, r, _, hv, hlen ▸ i5, ?_⟩
    · rw [Frame.bytes, List.append_assoc, List.take_append_drop]
      exact e
    · simp only [mkPdu, hlen, i1, i2, i3, i4]

end PynetVerif.Framing
