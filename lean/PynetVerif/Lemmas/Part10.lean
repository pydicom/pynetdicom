import PynetVerif.Model.Part10
/-! `Part10.walk` on what `encElem` / `encMeta` write. -/
namespace PynetVerif.Part10

theorem header_hlen (t : Tables) (i : Bool) (v0 v1 l0 l1 : UInt8) (tl : Bytes) (b : Bool) (len hlen : Nat)
    (h : header t i v0 v1 l0 l1 tl = some (b, len, hlen)) : 8 ≤ hlen := by
  unfold header at h
  split at h
  · cases h; omega
  · split at h
    · split at h
      · split at h
        · cases h; omega
        · cases h
      · cases h; omega
    · split at h <;> (cases h; omega)

theorem walk_fuel (t : Tables) (i : Bool) (f1 f2 acc : Nat) (rest : Bytes)
    (h1 : rest.length < f1) (h2 : rest.length < f2) : walk t i f1 acc rest = walk t i f2 acc rest := by
  fun_induction walk t i f1 acc rest generalizing f2 with
  | case1 => omega
  | case6 fuel acc g0 g1 e0 e1 v0 v1 l0 l1 tl b len hlen hh hd hg hl n ih =>
    obtain _ | f2 := f2
    · omega
    · -- the step `n` is at least the header (`h8`) of the at least 8 bytes left
      have h8 := header_hlen t i v0 v1 l0 l1 tl b len hlen hh
      rw [walk]
      simp only [hh, hd, hg, hl, ↓reduceIte]
      exact ih f2 (by simp only [List.length_drop, List.length_cons, n] at *; omega)
        (by simp only [List.length_drop, List.length_cons, n] at *; omega)
  | _ =>
    obtain _ | f2 := f2
    · omega
    · simp [walk, *]

-- `Nat.mod_mod` first: `omega` is twice as slow on `n % 256 % 256`
theorem le16_bytes (n : Nat) (h : n < 65536) : le16 (b0 n) (b1 n) = n := by
  simp only [le16, b0, b1, UInt8.toNat_ofNat', Nat.reducePow, Nat.mod_mod]; omega

theorem le32_bytes (n : Nat) (h : n < 4294967296) : le32 (b0 n) (b1 n) (b2 n) (b3 n) = n := by
  simp only [le32, b0, b1, b2, b3, UInt8.toNat_ofNat', Nat.reducePow, Nat.mod_mod]; omega

theorem encElem_length (t : Tables) (e : Elem) :
    (encElem t e).length = (if e.vr ∈ t.long then 12 else 8) + e.value.length := by
  unfold encElem
  split <;> simp <;> omega

theorem header_encElem (t : Tables) (e : Elem) (hwf : e.wf t) (tail : Bytes) :
    ∃ l0 l1 tl, encElem t e ++ tail = 2 :: 0 :: e.el.1 :: e.el.2 :: e.vr.1 :: e.vr.2 :: l0 :: l1 :: tl ∧
      header t false e.vr.1 e.vr.2 l0 l1 tl =
        some (decide (e.vr ∈ t.long), e.value.length, if e.vr ∈ t.long then 12 else 8) := by
  obtain ⟨hk, hl⟩ := hwf
  have hvr : (e.vr.1, e.vr.2) = e.vr := rfl
  by_cases hlong : e.vr ∈ t.long
  · rw [if_pos hlong] at hl
    exact ⟨_, _, _, by simp only [encElem, hlong, ↓reduceIte, List.cons_append]; rfl,
      by simp [header, hvr, hk, hlong, le32_bytes _ (Nat.lt_trans hl (by decide))]⟩
  · rw [if_neg hlong] at hl
    exact ⟨_, _, _, by simp only [encElem, hlong, ↓reduceIte, List.cons_append]; rfl,
      by simp [header, hvr, hk, hlong, le16_bytes _ hl]⟩

theorem walk_elem (t : Tables) (e : Elem) (hwf : e.wf t) (tail : Bytes) (fuel acc : Nat) :
    walk t false (fuel + 1) acc (encElem t e ++ tail) = walk t false fuel (acc + (encElem t e).length) tail := by
  obtain ⟨l0, l1, tl, henc, hh⟩ := header_encElem t e hwf tail
  have hne : e.value.length ≠ 0xFFFFFFFF := by
    have := hwf.2; split at this <;> omega
  rw [henc, walk]
  simp only [hh]
  rw [← henc, ← encElem_length]
  simp [show le16 (2 : UInt8) 0 = 2 by decide, hne]

theorem encMeta_cons (t : Tables) (e : Elem) (es : List Elem) :
    encMeta t (e :: es) = encElem t e ++ encMeta t es := by simp [encMeta]

theorem encMeta_length_ge (t : Tables) (es : List Elem) : 8 * es.length ≤ (encMeta t es).length := by
  induction es with
  | nil => simp [encMeta]
  | cons e es ih =>
    rw [encMeta_cons, List.length_append, encElem_length, List.length_cons]
    split <;> omega

theorem walk_meta (t : Tables) (es : List Elem) (hwf : ∀ e ∈ es, e.wf t) (tail : Bytes) :
    ∀ (fuel acc : Nat), es.length ≤ fuel → walk t false fuel acc (encMeta t es ++ tail) =
      walk t false (fuel - es.length) (acc + (encMeta t es).length) tail := by
  induction es with
  | nil => intro fuel acc _; simp [encMeta]
  | cons e es ih =>
    intro fuel acc h
    obtain _ | fuel := fuel
    · cases h
    · rw [encMeta_cons, List.append_assoc, walk_elem t e (hwf e (by simp)),
        ih (fun x hx => hwf x (by simp [hx])) fuel _ (by simpa using h), List.length_append, Nat.add_assoc,
        List.length_cons, Nat.add_sub_add_right]

theorem walk_ds (t : Tables) (i : Bool) (ds : Bytes) (hds : dsStartOk t ds) (fuel acc : Nat) (hf : 0 < fuel) :
    walk t i fuel acc ds = .ok acc := by
  obtain _ | fuel := fuel
  · cases hf
  unfold walk
  match ds, hds with
  | [], _ => simp
  | g0 :: g1 :: e0 :: e1 :: v0 :: v1 :: l0 :: l1 :: tl, ⟨hg, hd, hl⟩ =>
    simp only
    -- the header can only fail to be read where a 32-bit length is announced, and there `hl` applies
    have hh : ∃ r, header t i v0 v1 l0 l1 tl = some r := by
      unfold header
      split
      · exact ⟨_, rfl⟩
      · split
        · split
          · match tl, hl ‹_› ‹_› with
            | a :: b :: c :: d :: _, _ => exact ⟨_, rfl⟩
          · exact ⟨_, rfl⟩
        · split <;> exact ⟨_, rfl⟩
    obtain ⟨⟨b, len, hlen⟩, hh⟩ := hh
    simp only [hh, hd, hg, ↓reduceIte, ne_eq, not_false_eq_true]

theorem split_prefix (t : Tables) (pre : Bytes) (hpre : pre.length = 128) (rest : Bytes) :
    split t (pre ++ magic ++ rest) = walk t (decideImplicit rest) (rest.length + 1) 132 rest := by
  have h128 : (pre ++ magic ++ rest).drop 128 = magic ++ rest := by
    rw [List.append_assoc]; exact List.drop_left' hpre
  have h132 : (pre ++ magic ++ rest).drop 132 = rest := List.drop_left' (by simp [hpre, magic])
  have hm : (magic ++ rest).take 4 = magic := List.take_left' rfl
  simp only [split, h128, h132, hm, ne_eq, not_true_eq_false, ↓reduceIte]

end PynetVerif.Part10
