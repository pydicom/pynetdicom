import PynetVerif.Lemmas.PduPred
/-! `to_primitive` accepts every well-formed PDU; primitive → PDU → primitive is the identity. -/
namespace PynetVerif.Pdu

theorem addTs_total {u : Bytes} (acc' : List Bytes) (h : u.length ≤ 64) : ∃ r, addTs acc' u = .ok r := by
  simp only [addTs, blt_false h]
  split
  · exact ⟨_, rfl⟩
  · simp only [Bool.false_eq_true, ↓reduceIte]
    split <;> exact ⟨_, rfl⟩

theorem ctxSubs_total : ∀ (subs : List SynItem), subs.all synWf = true →
    ∀ a acc, ∃ r, ctxSubs subs a acc = .ok r
  | [], _, a, acc => ⟨_, rfl⟩
  | .transfer u :: tl, h, a, acc => by
    simp only [List.all_cons, Bool.and_eq_true, synWf] at h
    obtain ⟨r, hr⟩ := addTs_total (u := u) acc (uidWf_len h.1).1
    simp only [ctxSubs, hr]
    exact ctxSubs_total tl h.2 a r
  | .abstract u :: tl, h, a, acc => by
    simp only [List.all_cons, Bool.and_eq_true, synWf] at h
    simp only [ctxSubs, blt_false (uidWf_len h.1).1, Bool.false_eq_true, ↓reduceIte]
    exact ctxSubs_total tl h.2 (some u) acc

theorem ctxOfRq_total {id : Nat} {subs : List SynItem} (hid : ctxIdOk id = true) (h : subs.all synWf = true) :
    ∃ c, ctxOfRq id subs = .ok c := by
  obtain ⟨⟨a, ts⟩, hr⟩ := ctxSubs_total subs h none []
  simp only [ctxOfRq, hid, ↓reduceIte, hr]
  exact ⟨_, rfl⟩

theorem userToPrim_total {s : UserSub} (h : userWf s = true) : ∃ u, userToPrim s = .ok u := by
  cases s with
  | userIdRq t r p s =>
    simp only [userWf, Bool.and_eq_true] at h
    simp only [userToPrim, h.1.1.1.1, h.1.1.1.2, Bool.and_self, ↓reduceIte]
    exact ⟨_, rfl⟩
  | _ => exact ⟨_, rfl⟩

theorem mapE_total {α β : Type} {f : α → Except Err β} :
    ∀ {xs : List α}, (∀ x ∈ xs, ∃ y, f x = .ok y) → ∃ ys, mapE f xs = .ok ys
  | [], _ => ⟨[], rfl⟩
  | x :: xs, h => by
    obtain ⟨y, hy⟩ := h x (by simp)
    obtain ⟨ys, hys⟩ := mapE_total (xs := xs) (fun z hz => h z (by simp [hz]))
    exact ⟨y :: ys, by simp only [mapE, hy, hys]⟩

theorem ctxsRq_total : ∀ (items : List VarItem), items.all varWf = true → ∃ cs, ctxsRq items = .ok cs
  | [], _ => ⟨[], rfl⟩
  | v :: tl, h => by
    simp only [List.all_cons, Bool.and_eq_true] at h
    obtain ⟨cs, hcs⟩ := ctxsRq_total tl h.2
    cases v with
    | pcRq id subs =>
      have hv := h.1
      simp only [varWf, Bool.and_eq_true] at hv
      obtain ⟨c, hc⟩ := ctxOfRq_total hv.1.1.1 hv.1.1.2
      exact ⟨c :: cs, by simp only [ctxsRq, hc, hcs]⟩
    | _ => exact ⟨cs, hcs⟩

theorem ctxOfAc_total {id res : Nat} {subs : List SynItem} (h : varWf (.pcAc id res subs) = true) :
    ∃ c, ctxOfAc id res subs = .ok c := by
  simp only [varWf, Bool.and_eq_true] at h
  obtain ⟨⟨⟨hid, _⟩, hs⟩, hshape⟩ := h
  match subs, hs, hshape with
  | [.transfer u], hs, _ =>
    simp only [List.all_cons, List.all_nil, Bool.and_true, synWf] at hs
    have := uidWf_len hs
    simp only [ctxOfAc, hid, ↓reduceIte, this.2, Bool.false_eq_true, blt_false this.1]
    exact ⟨_, rfl⟩
  | [.abstract u], _, hsh => simp [isTransfer] at hsh

theorem ctxsAc_total : ∀ (items : List VarItem), items.all varWf = true → ∃ cs, ctxsAc items = .ok cs
  | [], _ => ⟨[], rfl⟩
  | v :: tl, h => by
    simp only [List.all_cons, Bool.and_eq_true] at h
    obtain ⟨cs, hcs⟩ := ctxsAc_total tl h.2
    cases v with
    | pcAc id res subs =>
      obtain ⟨c, hc⟩ := ctxOfAc_total h.1
      exact ⟨c :: cs, by simp only [ctxsAc, hc, hcs]⟩
    | _ => exact ⟨cs, hcs⟩

theorem lastUi_total : ∀ (items : List VarItem), items.all varWf = true → ∀ acc, ∃ ui, lastUi items acc = .ok ui
  | [], _, acc => ⟨acc, rfl⟩
  | v :: tl, h, acc => by
    simp only [List.all_cons, Bool.and_eq_true] at h
    cases v with
    | userInfo subs =>
      have hv := h.1
      simp only [varWf, Bool.and_eq_true] at hv
      obtain ⟨ui, hui⟩ := mapE_total (f := userToPrim) (xs := subs) (fun s hs => by
        have := List.all_eq_true.mp hv.1 s hs
        simp only [Bool.and_eq_true] at this
        exact userToPrim_total this.1)
      simp only [lastUi, hui]
      exact lastUi_total tl h.2 ui
    | _ => exact lastUi_total tl h.2 acc

/-- `A_ASSOCIATE_RJ.to_primitive()` accepts every result / source / reason of PS3.8 Table 9-21 -/
theorem toPrim_rj {r s d : Nat} (h : rjWf r s d = true) : toPrim (.rj r s d) = .ok (.assocRj r s d) := by
  simp only [rjWf, Bool.and_eq_true, Bool.or_eq_true, beq_iff_eq] at h
  have : (Nat.ble r 2 && (Nat.ble 1 s && Nat.ble s 3) && (d == 1 || d == 2 || d == 3 || d == 7)) = true := by
    simp only [Bool.and_eq_true, Bool.or_eq_true, beq_iff_eq, Nat.ble_eq]; omega
  simp only [toPrim, this, ↓reduceIte]

/-- `A_ABORT_RQ.to_primitive()` on the sources / reasons of PS3.8 Table 9-26: source 2 is an A-P-ABORT -/
theorem toPrim_abort {s r : Nat} (h : abortWf s r = true) :
    toPrim (.abort s r) = .ok (if s = 2 then .pabort r else .abort s) := by
  simp only [abortWf, Bool.and_eq_true, Bool.or_eq_true, beq_iff_eq] at h
  rcases h with ⟨rfl, _⟩ | ⟨rfl, hr⟩
  · rfl
  · have : (r == 0 || r == 1 || r == 2 || r == 4 || r == 5 || r == 6) = true := by
      simpa only [Bool.or_eq_true, beq_iff_eq] using hr
    simp only [toPrim, beq_self_eq_true, this, ↓reduceIte]

theorem toPrim_total_of_wf (p : PDU) (h : wf p = true) : ∃ a, toPrim (canon p) = .ok a := by
  cases p with
  | rq ver called calling items =>
    simp only [wf, Bool.and_eq_true] at h
    obtain ⟨cs, hcs⟩ := ctxsRq_total items h.1.2
    obtain ⟨ui, hui⟩ := lastUi_total items h.1.2 []
    exact ⟨.assocRq (pyStrip calling) (pyStrip called) (firstApp items) cs ui, by
      simp only [canon, toPrim, hcs, hui]⟩
  | ac ver called calling items =>
    simp only [wf, Bool.and_eq_true] at h
    obtain ⟨cs, hcs⟩ := ctxsAc_total items h.1.2
    obtain ⟨ui, hui⟩ := lastUi_total items h.1.2 []
    exact ⟨.assocAc (pyStrip calling) (pyStrip called) (lastApp items none) cs ui, by
      simp only [canon, toPrim, hcs, hui]⟩
  | rj r s d =>
    exact ⟨_, toPrim_rj h⟩
  | pdata pdvs => exact ⟨_, rfl⟩
  | relRq => exact ⟨_, rfl⟩
  | relRp => exact ⟨_, rfl⟩
  | abort s r => exact ⟨_, toPrim_abort h⟩

theorem addTs_fresh {acc : List Bytes} {u : Bytes} (hu : uidWf u = true) (hn : u ∉ acc) :
    addTs acc u = .ok (acc ++ [u]) := by
  have := uidWf_len hu
  have hc : acc.contains u = false := by simpa using hn
  simp only [addTs, this.2, Bool.false_eq_true, ↓reduceIte, blt_false this.1, hc]

theorem ctxSubs_transfers : ∀ (ts : List Bytes) (a : Option Bytes) (acc : List Bytes),
    ts.all uidWf = true → (∀ x ∈ acc, x ∉ ts) → nodupB ts = true →
    ctxSubs (ts.map .transfer) a acc = .ok (a, acc ++ ts)
  | [], a, acc, _, _, _ => by simp [ctxSubs]
  | u :: ts, a, acc, hwf, hdis, hnd => by
    simp only [List.all_cons, Bool.and_eq_true] at hwf
    simp only [nodupB, Bool.and_eq_true, Bool.not_eq_true'] at hnd
    have hfresh : u ∉ acc := fun hm => hdis u hm (by simp)
    simp only [List.map_cons, ctxSubs, addTs_fresh hwf.1 hfresh]
    rw [ctxSubs_transfers ts a (acc ++ [u]) hwf.2 ?_ hnd.2]
    · simp
    · intro x hx
      rcases List.mem_append.mp hx with hx | hx
      · exact fun hm => hdis x hx (List.mem_cons_of_mem _ hm)
      · simp only [List.mem_singleton] at hx; subst hx
        have := hnd.1
        simpa using this

theorem ctxOfRq_pcRqOf (c : PCtx) (hwf : varWf (pcRqOf c) = true) (hs : ctxRqShape c = true) :
    ctxOfRq c.id (.abstract (c.abstract.getD []) :: c.transfer.map .transfer) = .ok c := by
  obtain ⟨id, ab, ts, res⟩ := c
  simp only [ctxRqShape, Bool.and_eq_true, Option.isSome_iff_exists, Option.isNone_iff_eq_none] at hs
  obtain ⟨⟨⟨a, rfl⟩, rfl⟩, hnd⟩ := hs
  simp only [pcRqOf, varWf, Bool.and_eq_true, Option.getD_some, List.all_cons, synWf] at hwf
  obtain ⟨⟨⟨hid, ⟨ha, hts⟩⟩, _⟩, _⟩ := hwf
  have htswf : ts.all uidWf = true := by
    rw [List.all_eq_true] at hts ⊢
    intro u hu
    have := hts (.transfer u) (List.mem_map.mpr ⟨u, hu, rfl⟩)
    simpa [synWf] using this
  simp only [ctxOfRq, hid, ↓reduceIte, Option.getD_some, ctxSubs, blt_false (uidWf_len ha).1,
    Bool.false_eq_true, ctxSubs_transfers ts (some a) [] htswf (fun _ h => by cases h) hnd, List.nil_append]

theorem ctxsRq_map (cs : List PCtx) (tail : List VarItem) (rest : List PCtx)
    (ht : ctxsRq tail = .ok rest) (hwf : (cs.map pcRqOf).all varWf = true) (hs : cs.all ctxRqShape = true) :
    ctxsRq (cs.map pcRqOf ++ tail) = .ok (cs ++ rest) := by
  induction cs with
  | nil => simpa using ht
  | cons c cs ih =>
    simp only [List.map_cons, List.all_cons, Bool.and_eq_true] at hwf hs
    have := ctxOfRq_pcRqOf c hwf.1 hs.1
    simp only [List.map_cons, List.cons_append, pcRqOf, ctxsRq, this, ih hwf.2 hs.2]

theorem ctxOfAc_pcAcOf (c : PCtx) (hwf : varWf (pcAcOf c) = true) (hs : ctxAcShape c = true) :
    ctxOfAc c.id (c.result.getD 0) [.transfer (c.transfer.headD [])] = .ok c := by
  obtain ⟨id, ab, ts, res⟩ := c
  simp only [ctxAcShape, Bool.and_eq_true, Option.isSome_iff_exists, Option.isNone_iff_eq_none,
    beq_iff_eq] at hs
  obtain ⟨⟨rfl, ⟨r, rfl⟩⟩, hlen⟩ := hs
  match ts, hlen with
  | [u], _ =>
    simp only [pcAcOf, varWf, Bool.and_eq_true, Option.getD_some, List.headD_cons, List.all_cons,
      List.all_nil, Bool.and_true, synWf] at hwf
    obtain ⟨⟨⟨hid, _⟩, hu⟩, _⟩ := hwf
    have := uidWf_len hu
    simp [ctxOfAc, hid, this.2, blt_false this.1]

theorem ctxsAc_map (cs : List PCtx) (tail : List VarItem) (rest : List PCtx)
    (ht : ctxsAc tail = .ok rest) (hwf : (cs.map pcAcOf).all varWf = true) (hs : cs.all ctxAcShape = true) :
    ctxsAc (cs.map pcAcOf ++ tail) = .ok (cs ++ rest) := by
  induction cs with
  | nil => simpa using ht
  | cons c cs ih =>
    simp only [List.map_cons, List.all_cons, Bool.and_eq_true] at hwf hs
    have := ctxOfAc_pcAcOf c hwf.1 hs.1
    simp only [List.map_cons, List.cons_append, pcAcOf, ctxsAc, this, ih hwf.2 hs.2]

theorem userToPrim_fromPrim (u : UserPrim) (h : userWf (userFromPrim u) = true) :
    userToPrim (userFromPrim u) = .ok u := by
  cases u with
  | role uid scu scp => cases scu <;> cases scp <;> rfl
  | userIdRq t r p s =>
    simp only [userFromPrim, userWf, Bool.and_eq_true] at h
    simp only [userFromPrim, userToPrim, h.1.1.1.1, h.1.1.1.2, Bool.and_self, ↓reduceIte]
    cases r <;> rfl
  | _ => rfl

theorem lastUi_userInfo (ui : List UserPrim) (acc : List UserPrim)
    (h : (ui.map userFromPrim).all (fun s => userWf s && userFits s) = true) :
    lastUi [.userInfo (ui.map userFromPrim)] acc = .ok ui := by
  have : mapE userToPrim (ui.map userFromPrim) = .ok ui :=
    mapE_map_ok userToPrim userFromPrim ui fun u hu => userToPrim_fromPrim u (by
      have := List.all_eq_true.mp h _ (List.mem_map.mpr ⟨u, hu, rfl⟩)
      simp only [Bool.and_eq_true] at this
      exact this.1)
  simp only [lastUi, this]

theorem lastUi_skip (f : PCtx → VarItem) (hf : ∀ c s, f c ≠ .userInfo s) (cs : List PCtx) (tail : List VarItem)
    (acc : List UserPrim) : lastUi (cs.map f ++ tail) acc = lastUi tail acc := by
  induction cs with
  | nil => rfl
  | cons c cs ih =>
    rw [List.map_cons, List.cons_append, ← ih]
    cases h : f c with
    | userInfo s => exact absurd h (hf c s)
    | _ => rfl

theorem lastApp_skip_pcAc (cs : List PCtx) (tail : List VarItem) (a : Option Bytes) :
    lastApp (cs.map pcAcOf ++ tail) a = lastApp tail a := by
  induction cs with
  | nil => rfl
  | cons c cs ih => simpa [pcAcOf, lastApp] using ih

/-- the PDU is taken through `canon`, as encoding and decoding it does -/
theorem toPrim_fromPrim (a : Prim) (h : primWf a = true) : toPrim (canon (fromPrim a)) = .ok (canonPrim a) := by
  cases a with
  | assocRq calling called app cs ui =>
    simp only [primWf, Bool.and_eq_true, Option.isSome_iff_exists] at h
    obtain ⟨⟨hwf, ⟨u, rfl⟩⟩, hshape⟩ := h
    simp only [fromPrim, wf, Bool.and_eq_true, Option.getD_some, List.all_cons, List.all_append,
      List.all_nil, Bool.and_true] at hwf
    obtain ⟨⟨_, ⟨_, ⟨hcs, hui⟩⟩⟩, _⟩ := hwf
    simp only [varWf, Bool.and_eq_true] at hui
    have h1 : ctxsRq (cs.map pcRqOf ++ [.userInfo (ui.map userFromPrim)]) = .ok (cs ++ []) :=
      ctxsRq_map cs _ [] rfl hcs hshape
    have h2 : lastUi (cs.map pcRqOf ++ [.userInfo (ui.map userFromPrim)]) [] = .ok ui := by
      rw [lastUi_skip pcRqOf nofun, lastUi_userInfo ui [] hui.1]
    simp only [fromPrim, canon, toPrim, Option.getD_some, ctxsRq, lastUi, firstApp, h1, h2, List.append_nil,
      canonPrim]
  | assocAc calling called app cs ui =>
    simp only [primWf, Bool.and_eq_true, Option.isSome_iff_exists] at h
    obtain ⟨⟨hwf, ⟨u, rfl⟩⟩, hshape⟩ := h
    simp only [fromPrim, wf, Bool.and_eq_true, Option.getD_some, List.all_cons, List.all_append,
      List.all_nil, Bool.and_true] at hwf
    obtain ⟨⟨_, ⟨_, ⟨hcs, hui⟩⟩⟩, _⟩ := hwf
    simp only [varWf, Bool.and_eq_true] at hui
    have h1 : ctxsAc (cs.map pcAcOf ++ [.userInfo (ui.map userFromPrim)]) = .ok (cs ++ []) :=
      ctxsAc_map cs _ [] rfl hcs hshape
    have h2 : lastUi (cs.map pcAcOf ++ [.userInfo (ui.map userFromPrim)]) [] = .ok ui := by
      rw [lastUi_skip pcAcOf nofun, lastUi_userInfo ui [] hui.1]
    have h3 : lastApp (cs.map pcAcOf ++ [.userInfo (ui.map userFromPrim)]) (some u) = some u := by
      rw [lastApp_skip_pcAc]; rfl
    simp only [fromPrim, canon, toPrim, Option.getD_some, ctxsAc, lastUi, lastApp, h1, h2, h3, List.append_nil,
      canonPrim]
  | assocRj r s d =>
    exact toPrim_rj h
  | pdata pdvs =>
    simp only [fromPrim, canon, toPrim, canonPrim, List.map_map]
    congr 2
    have : ((fun p : PDV => (p.id, p.data)) ∘ fun p : Nat × Bytes => (⟨p.1, p.2⟩ : PDV)) = id := by
      funext p; rfl
    rw [this, List.map_id]
  | releaseRq => rfl
  | releaseRp => rfl
  | abort s =>
    simp only [primWf, fromPrim, wf, Bool.and_eq_true, bne_iff_ne] at h
    show toPrim (.abort s 0) = _
    rw [toPrim_abort h.1, if_neg h.2]; rfl
  | pabort r => exact toPrim_abort h

end PynetVerif.Pdu
