import PynetVerif.Lemmas.Cmd
/-! One parameter of a primitive (C17) through writer, reader and setter. -/
namespace PynetVerif.Cmd

/-- a stored UID: non-empty, at most 64 characters, no delimiter, nothing the setter or the
reader would strip -/
def UidOk (s : Bytes) : Prop :=
  s ≠ [] ∧ s.length ≤ 64 ∧ BS ∉ s ∧ stripSp s = s ∧ rstripPad s = s

/-- **In-range parameter values**, per setter kind and VR: the values the setter stores that
lie in the range of the VR (US 0..65535, tags 32 bit, strings without the value delimiter).
`none` (parameter absent) is in range except for Priority, which is never `None`. -/
def ParOk : Setter → VR → Option Val → Prop
  | .priority, .US, some (.int n) => n ≤ 2
  | .priority, _, _ => False
  | _, _, none => True
  | .us16, .US, some (.int n) => n < 65536
  | .natAny, .US, some (.int n) => n < 65536
  | .plain, .US, some (.int n) => n < 65536
  | .uid, .UI, some (.str s) => UidOk s
  | .aeOpt, .AE, some (.str s) => validAE s = true
  | .aeReq, .AE, some (.str s) => validAE s = true ∧ stripSp s ≠ []
  | .plain, .LO, some (.str s) => BS ∉ s ∧ s.length < 65536
  | .plain, .AT, some (.int t) => t < 4294967296
  | .ail, .AT, some (.int t) => t < 4294967296
  | .plain, .AT, some (.list ts) => (∀ t ∈ ts, t < 4294967296) ∧ ts.length < 16384
  | .ail, .AT, some (.list ts) => (∀ t ∈ ts, t < 4294967296) ∧ ts.length < 16384 ∧ ts.length ≠ 1
  | _, _, _ => False

theorem validAE_noBS (s : Bytes) (h : validAE s = true) : BS ∉ s := by
  simp only [validAE, Bool.and_eq_true, List.all_eq_true] at h
  intro hm
  exact absurd (h.2 BS hm) (by decide)

theorem validAE_length (s : Bytes) (h : validAE s = true) : s.length ≤ 16 := by
  simp only [validAE, Bool.and_eq_true, decide_eq_true_eq] at h; exact h.1

theorem validAE_stripSp (s : Bytes) (h : validAE s = true) : validAE (stripSp s) = true := by
  simp only [validAE, Bool.and_eq_true, decide_eq_true_eq, List.all_eq_true] at h ⊢
  exact ⟨Nat.le_trans (stripSp_eq s ▸ Policy.strip_sublist isSp s).length_le h.1, fun c hc => h.2 c ((stripSp_eq s ▸ Policy.strip_sublist isSp s).subset hc)⟩

/-- 65545 = 8 of tag and length + a value of at most 65537: the longest in-range values are an LO
of 65535 characters and 16383 tags (`ParOk`) -/
def GoodElem (e : Elem) : Prop := ElemOk e ∧ ∃ b, encodeElem e = some b ∧ b.length ≤ 65545

theorem good_of_val (t : Nat) (vr : VR) (ev : EVal) (body : Bytes) (hv : vrOf t = some vr) (hok : ValOk vr ev)
    (hb : encodeVal vr ev = some body) (hl : body.length ≤ 65537) : GoodElem (t, ev) := by
  refine ⟨⟨vr, hv, hok⟩, leTag t ++ le32 body.length ++ body, ?_, ?_⟩
  · unfold encodeElem
    simp only [hv, hb]
    rw [if_pos (by omega)]
  · simp only [List.length_append, leTag_length, le32_length]; omega

theorem us_good (t n : Nat) (hv : vrOf t = some .US) (hn : n < 65536) : GoodElem (t, .nums [n]) :=
  have h : ∀ x ∈ [n], x < 65536 := List.forall_mem_singleton.mpr hn
  good_of_val t .US _ _ hv h ((encNums_bounded _ le16 [n]).trans (if_pos h)) (by simp [le16_length])

theorem emptyOf_good (t : Nat) (vr : VR) (hv : vrOf t = some vr) : GoodElem (t, emptyOf vr) := by
  refine good_of_val t vr _ [] hv ?_ ?_ (by simp)
  · cases vr <;> simp [emptyOf, ValOk]
  · cases vr <;> rfl

theorem at_good (t : Nat) (xs : List Nat) (hv : vrOf t = some .AT) (h : ∀ x ∈ xs, x < 4294967296)
    (hl : xs.length ≤ 16384) : GoodElem (t, .nums xs) :=
  good_of_val t .AT _ _ hv h ((encNums_bounded _ leTag xs).trans (if_pos h))
    (by rw [length_flatMap_const 4 leTag leTag_length]; omega)

theorem str_good (t : Nat) (vr : VR) (x : Bytes) (hv : vrOf t = some vr) (hvr : vr = .UI ∨ vr = .AE ∨ vr = .LO)
    (hbs : BS ∉ x) (hl : x.length ≤ 65536) : ∃ ev, toEVal vr (.str x) = some ev ∧ GoodElem (t, ev) := by
  have hmem : ∀ y ∈ (if x.isEmpty then [] else [x]), BS ∉ y := by
    intro y hy; split at hy
    · cases hy
    · cases List.mem_singleton.mp hy; exact hbs
  have hpad : ∀ pad, (padEven pad (joinBs (if x.isEmpty then [] else [x]))).length ≤ 65537 := by
    intro pad
    have := padEven_length pad (joinBs (if x.isEmpty then [] else [x]))
    have : (joinBs (if x.isEmpty then [] else [x])).length ≤ x.length := by split <;> simp [joinBs]
    omega
  rcases hvr with rfl | rfl | rfl <;> exact ⟨_, rfl, good_of_val t _ _ _ hv hmem rfl (hpad _)⟩

/-! **The arms of `ParOk`.**  In the four lemmas below `unfold ParOk at h; split at h` yields the
arms in the order in which they are written in `ParOk`, as cases `h_1` … `h_15`: 1 priority,
2 and 15 `False`, 3 absent, 4 us16, 5 natAny, 6 plain US, 7 uid, 8 aeOpt, 9 aeReq, 10 plain LO,
11 plain tag, 12 ail tag, 13 plain tag list, 14 ail tag list.  `split` substitutes the pattern of
the arm only for a discriminant that is a variable: hence `v : Option Val` in `pyVal_normVal`,
though `hev` forces `some`, and the `generalize` in `par_encodable`, whose bullets are the arms
that survive `cases hov` (1, 4–14). -/

theorem par_encodable (s : Setter) (vr : VR) (v : Val) (t : Nat) (hv : vrOf t = some vr) (h : ParOk s vr (some v)) :
    ∃ ev, toEVal vr v = some ev ∧ GoodElem (t, ev) := by
  generalize hov : some v = ov at h
  unfold ParOk at h
  split at h <;> first | exact h.elim | cases hov
  · exact ⟨_, rfl, us_good t _ hv (by omega)⟩
  · exact ⟨_, rfl, us_good t _ hv h⟩
  · exact ⟨_, rfl, us_good t _ hv h⟩
  · exact ⟨_, rfl, us_good t _ hv h⟩
  · exact str_good t _ _ hv (.inl rfl) h.2.2.1 (by have := h.2.1; omega)
  · exact str_good t _ _ hv (.inr (.inl rfl)) (validAE_noBS _ h) (by have := validAE_length _ h; omega)
  · exact str_good t _ _ hv (.inr (.inl rfl)) (validAE_noBS _ h.1) (by have := validAE_length _ h.1; omega)
  · exact str_good t _ _ hv (.inr (.inr rfl)) h.1 (by omega)
  · exact ⟨_, rfl, at_good t _ hv (List.forall_mem_singleton.mpr h) (by simp)⟩
  · exact ⟨_, rfl, at_good t _ hv (List.forall_mem_singleton.mpr h) (by simp)⟩
  · exact ⟨_, rfl, at_good t _ hv h.1 (by omega)⟩
  · exact ⟨_, rfl, at_good t _ hv h.1 (by omega)⟩

def stripOf : VR → Bytes → Bytes
  | .UI, s => stripSp (rstripPad s)
  | .AE, s => stripSp s
  | _, s => rstripPad s

theorem pyVal_norm_single (t : Nat) (vr : VR) (s : Bytes) :
    pyVal t (normVal vr (.strs (if s.isEmpty then [] else [s]))) = some (.str (stripOf vr s)) := by
  cases s with
  | nil => cases vr <;> rfl
  | cons c cs =>
    show pyVal t (.strs (normStrs vr [c :: cs])) = _
    unfold normStrs
    simp only [joinBs, List.isEmpty_cons, Bool.false_eq_true, if_false]
    -- a single `''` is the empty value, and read as `''` all the same
    have single : ∀ x, pyVal t (.strs (pyStrs [x])) = some (.str x) := fun x => by cases x <;> rfl
    cases vr <;> exact single _

theorem parOk_accepted (s : Setter) (vr : VR) (v : Option Val) (h : ParOk s vr v) : store s v = some v := by
  -- the cases are the arms of `ParOk` as numbered above `par_encodable`
  unfold ParOk at h
  split at h
  case h_2 | h_15 => exact h.elim
  case h_1 | h_4 => exact if_pos h
  case h_3 hs => cases s <;> first | rfl | exact (hs rfl).elim
  case h_7 x =>
    -- `set_uid`: `x` is its own strip, not empty and short enough
    obtain ⟨h1, h2, _, h4, _⟩ := h
    show (if (stripSp x).isEmpty then _ else if (stripSp x).length ≤ 64 then _ else none) = _
    rw [h4, if_neg (by simpa using h1), if_pos h2]
  case h_8 x =>
    cases x with
    | nil => rfl
    | cons c cs => exact if_pos h
  case h_9 x =>
    show (if (stripSp x).isEmpty then none else if validAE x then _ else none) = _
    rw [if_neg (by simpa using h.2), if_pos h.1]
  case h_12 => exact if_pos (by simpa [tagOk] using h)
  case h_14 ts =>
    match ts, h with
    | [], _ => rfl
    | [a], h => exact absurd rfl h.2.2
    | a :: b :: r, h => exact if_pos (List.all_eq_true.mpr fun x hx => by simpa [tagOk] using h.1 x hx)
  all_goals rfl

theorem ParOk.canon (s : Setter) (vr : VR) (v : Option Val) (h : ParOk s vr v) :
    ParOk s vr (v.bind (canonVal vr)) := by
  -- the cases are the arms of `ParOk` as numbered above `par_encodable`
  unfold ParOk at h
  split at h
  case h_2 | h_15 => exact h.elim
  case h_3 hs => cases s <;> first | trivial | exact (hs rfl).elim
  case h_8 => exact validAE_stripSp _ h
  case h_9 => exact ⟨validAE_stripSp _ h.1, by rw [stripSp_idem]; exact h.2⟩
  case h_10 => exact ⟨not_BS_rstripBy _ _ h.1, Nat.lt_of_le_of_lt (rstripBy_prefix _ _).length_le h.2⟩
  case h_13 ts =>
    match ts, h with
    | [], _ => trivial
    | [a], h => exact h.1 a List.mem_cons_self
    | a :: b :: r, h => exact h
  case h_14 ts =>
    match ts, h with
    | [], _ => trivial
    | [a], h => exact absurd rfl h.2.2
    | a :: b :: r, h => exact h
  -- numbers, tags and UIDs are their own canonical form
  all_goals exact h

theorem pyVal_normVal (s : Setter) (vr : VR) (v : Option Val) (t : Nat) (ev : EVal) (h : ParOk s vr v)
    (hev : v.bind (toEVal vr) = some ev) (hmv : vr = .AT → multivalueTags.contains t = true) :
    pyVal t (normVal vr ev) = v.bind (canonVal vr) := by
  -- the cases are the arms of `ParOk` as numbered above `par_encodable`
  unfold ParOk at h
  split at h <;> first | exact h.elim | cases hev
  case h_7 =>
    rw [pyVal_norm_single]
    show some (Val.str (stripSp (rstripPad _))) = some (.str _)
    rw [h.2.2.2.2, h.2.2.2.1]
  case h_8 | h_9 | h_10 => exact pyVal_norm_single ..
  case h_13 ts | h_14 ts =>
    match ts with
    | [] => rfl
    | [a] => rfl
    | a :: b :: r => exact if_pos (hmv rfl)
  all_goals rfl

/-- **One parameter.** What is read back is the canonical form of the stored value, which is in
range, hence stored unchanged. -/
theorem par_roundtrip (s : Setter) (vr : VR) (v : Val) (t : Nat) (ev : EVal) (h : ParOk s vr (some v))
    (hev : toEVal vr v = some ev) (hmv : vr = .AT → multivalueTags.contains t = true) :
    store s (pyVal t (normVal vr ev)) = some (canonVal vr v) := by
  rw [pyVal_normVal s vr (some v) t ev h hev hmv]
  exact parOk_accepted s vr _ (ParOk.canon s vr _ h)

end PynetVerif.Cmd
