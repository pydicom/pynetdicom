import PynetVerif.Lemmas.PduPred
/-! Encode, then decode.  Item level: under `synOk` / `userOk` / `varOk` a value is encoded as one item
(`IsItem`) and the item decoder gives it back from the item's type and body (`itemOf`).  PDU level:
`encOk p → decode (encode p) = ok (canon p)`; the encoder output is a framed PDU (`mkPdu`), which one
`_read_pdu_data()` hands on decoded (`classify_encode`). -/
namespace PynetVerif.Pdu
open PynetVerif.Framing

/-! The dispatch on the item type, one equation per type: rewriting with these is a third of the cost of taking
the `if` chain of the dispatcher through `simp`. -/

theorem decSyn_30 (k : Bool) (b : Bytes) : decSyn k (0x30, b) = liftUid SynItem.abstract (decUid true b) := rfl
theorem decSyn_40 (k : Bool) (b : Bytes) : decSyn k (0x40, b) = liftUid SynItem.transfer (decUid (!k) b) := rfl
theorem decUser_51 (b : Bytes) : decUser (0x51, b) = decMaxLen b := rfl
theorem decUser_52 (b : Bytes) : decUser (0x52, b) = liftUid UserSub.implUid (decUid true b) := rfl
theorem decUser_53 (b : Bytes) : decUser (0x53, b) = decAsync b := rfl
theorem decUser_54 (b : Bytes) : decUser (0x54, b) = decRole b := rfl
theorem decUser_55 (b : Bytes) : decUser (0x55, b) = liftUid UserSub.implVer (decImplVer b) := rfl
theorem decUser_56 (b : Bytes) : decUser (0x56, b) = decSopExt b := rfl
theorem decUser_57 (b : Bytes) : decUser (0x57, b) = decCommon b := rfl
theorem decUser_58 (b : Bytes) : decUser (0x58, b) = decUserIdRq b := rfl
theorem decUser_59 (b : Bytes) : decUser (0x59, b) = .ok (.userIdAc (b.drop 2)) := rfl
theorem decVar_10 (b : Bytes) : decVar (0x10, b) = liftUid VarItem.appCtx (decUid true b) := rfl
theorem decVar_20 (b : Bytes) : decVar (0x20, b) = decPcRq b := rfl
theorem decVar_21 (b : Bytes) : decVar (0x21, b) = decPcAc b := rfl
theorem decVar_50 (b : Bytes) : decVar (0x50, b) = decUserInfo b := rfl

theorem isItem_encSyn {k : Bool} {s : SynItem} (h : synOk k s = true) : IsItem (encSyn s) := by
  cases s <;> exact ⟨_, _, _, rfl, by simp only [synOk, Bool.and_eq_true, lt16_iff] at h; exact h.2⟩

theorem decSyn_encSyn {k : Bool} {s : SynItem} (h : synOk k s = true) : decSyn k (itemOf (encSyn s)) = .ok s := by
  cases s with
  | abstract u =>
    simp only [synOk, Bool.and_eq_true] at h
    show decSyn k (0x30, u) = _
    rw [decSyn_30, decUid_ok h.1]; rfl
  | transfer u =>
    simp only [synOk, Bool.and_eq_true] at h
    show decSyn k (0x40, u) = _
    rw [decSyn_40, decUid_ok h.1]; rfl

theorem decSyn_flatMap (skip : Bool) (subs : List SynItem) (h : subs.all (synOk skip) = true) :
    decSubs (decSyn skip) (subs.flatMap encSyn) = .ok subs :=
  decSubs_flatMap encSyn _ (fun _ hs => ⟨isItem_encSyn hs, decSyn_encSyn hs⟩) subs h

theorem decRelatedN_fuel : ∀ (f g : Nat) (b : Bytes), b.length ≤ f → b.length ≤ g →
    decRelatedN f b = decRelatedN g b :=
  fuel_irrelevant (fun f => by cases f <;> rfl) fun f g b ih => by
    match b with
    | h :: l :: rest =>
      simp only [decRelatedN]
      rw [ih (rest.drop (be16 h l)) (by simp only [List.length_drop, List.length_cons]; omega)]
    | [] | [_] => rfl

theorem decRelated_cons (u rest : Bytes) (h : relOk u = true) :
    decRelated (u16 u.length ++ u ++ rest) =
      match decRelated rest with
      | .ok tl => .ok (u :: tl)
      | .error e => .error e := by
  simp only [relOk, uidOk, uidB, Bool.and_eq_true, Bool.not_eq_true', Nat.ble_eq,
    List.isEmpty_eq_false_iff, Bool.not_true, Bool.false_or] at h
  obtain ⟨⟨⟨⟨ha, ht⟩, h64⟩, hn⟩, hne⟩ := h
  have hb := be16_u16 (by omega : u.length < 65536)
  have hpos : u.length ≠ 0 := by
    intro h0; exact hne (List.eq_nil_of_length_eq_zero h0)
  have hblt := blt_false h64
  simp only [decRelated, u16, List.cons_append, List.nil_append, List.length_cons, List.length_append,
    decRelatedN, hb, List.take_left, List.drop_left, hn, stripNul_of_not_endsNul hn, ha, ↓reduceIte,
    pyStrip_of_trimmed ht, Bool.false_eq_true, hblt, Bool.or_false]
  have : decide (u.length = 0) = false := by simp [hpos]
  simp only [this, Bool.false_eq_true, ↓reduceIte]
  rw [decRelatedN_fuel (u.length + rest.length + 1) rest.length rest (by omega) (Nat.le_refl _)]
  cases decRelatedN rest.length rest <;> rfl

theorem decRelated_enc (rel : List Bytes) (h : rel.all relOk = true) : decRelated (encRelated rel) = .ok rel := by
  induction rel with
  | nil => rfl
  | cons u us ih =>
    simp only [List.all_cons, Bool.and_eq_true] at h
    have e : encRelated (u :: us) = u16 u.length ++ u ++ encRelated us := by
      simp [encRelated, List.flatMap_cons]
    rw [e, decRelated_cons u _ h.1, ih h.2]

theorem userFits_iff {s : UserSub} : userFits s = true ↔ (encUser s).length < 65540 := by simp [userFits]

theorem isItem_encUser {s : UserSub} (hf : userFits s = true) : IsItem (encUser s) := by
  rw [userFits_iff] at hf
  cases s <;> exact isItem_of_length hf

theorem decUser_encUser {s : UserSub} (h : userOk s = true) (hf : userFits s = true) :
    decUser (itemOf (encUser s)) = .ok s := by
  -- `hf` becomes, per case, the bound on the parts whose length is written as a u16; `itemOf (encUser _)` is
  -- the pair stated by each `show`
  rw [userFits_iff] at hf
  cases s <;> simp only [encUser, tlv_length, List.length_append, List.length_cons, List.length_nil, u16_length,
    u32_length] at hf
  case maxLen n =>
    simp only [userOk, lt32_iff] at h
    show decUser (0x51, u32 n) = _
    simp only [decUser_51, u32, decMaxLen, be32_u32 h]
  case implUid u =>
    show decUser (0x52, u) = _
    rw [decUser_52, decUid_ok h]; rfl
  case asyncOps i p =>
    simp only [userOk, Bool.and_eq_true, lt16_iff] at h
    show decUser (0x53, u16 i ++ u16 p) = _
    simp only [decUser_53, u16, List.cons_append, List.nil_append, decAsync, be16_u16 h.1, be16_u16 h.2]
  case role u scu scp =>
    simp only [userOk, Bool.and_eq_true, Nat.ble_eq] at h
    obtain ⟨⟨hu, h1⟩, h2⟩ := h
    show decUser (0x54, u16 u.length ++ u ++ [u8 scu, u8 scp]) = _
    simp only [decUser_54, u16, List.cons_append, List.nil_append, decRole, be16_u16 (by omega : u.length < 65536),
      List.take_left, List.drop_left, decUid_ok hu, u8_toNat (by omega : scu < 256), u8_toNat (by omega : scp < 256)]
    simp [Nat.ble_eq, h1, h2]
  case implVer n =>
    simp only [userOk, implVerOk, Bool.and_eq_true, Nat.ble_eq] at h
    obtain ⟨⟨ha, hl⟩, hc⟩ := h
    have hblt := blt_false hl
    show decUser (0x55, n) = _
    simp [decUser_55, decImplVer, ha, hblt, hc, liftUid]
  case sopExt u info =>
    show decUser (0x56, u16 u.length ++ u ++ info) = _
    simp only [decUser_56, u16, List.cons_append, List.nil_append, decSopExt, be16_u16 (by omega : u.length < 65536),
      List.take_left, List.drop_left, decUid_ok h]
  case commonExt v sop svc rel =>
    simp only [userOk, Bool.and_eq_true, beq_iff_eq] at h
    obtain ⟨⟨⟨⟨hv, hsop⟩, hsvc⟩, hrel⟩, _⟩ := h
    subst hv
    show decUser (0x57, u16 sop.length ++ sop ++ (u16 svc.length ++ svc ++
      (u16 (encRelated rel).length ++ encRelated rel))) = _
    simp only [decUser_57, u16, List.cons_append, List.nil_append, decCommon, be16_u16 (by omega : sop.length < 65536),
      List.take_left, List.drop_left, decUid_ok hsop, be16_u16 (by omega : svc.length < 65536),
      decUid_ok hsvc, List.drop_succ_cons, List.drop_zero, decRelated_enc rel hrel]
  case userIdRq t r p s =>
    simp only [userOk, Bool.and_eq_true, lt8_iff, lt16_iff] at h
    obtain ⟨⟨⟨ht, hr⟩, hp⟩, hs⟩ := h
    show decUser (0x58, u8 t :: u8 r :: (u16 p.length ++ p ++ (u16 s.length ++ s))) = _
    simp only [decUser_58, u16, List.cons_append, List.nil_append, decUserIdRq, be16_u16 hp,
      List.take_left, List.drop_left, List.drop_succ_cons, List.drop_zero, u8_toNat ht, u8_toNat hr]
  case userIdAc resp =>
    show decUser (0x59, u16 resp.length ++ resp) = _
    simp [decUser_59, u16]

theorem decUser_flatMap (subs : List UserSub) (h : subs.all (fun s => userOk s && userFits s) = true) :
    decSubs decUser (subs.flatMap encUser) = .ok subs :=
  decSubs_flatMap encUser _ (fun s hs => by
    simp only [Bool.and_eq_true] at hs
    exact ⟨isItem_encUser hs.2, decUser_encUser hs.1 hs.2⟩) subs h

theorem firstLen_of_le_one {subs : List SynItem} (h : subs.length ≤ 1) :
    firstLen subs = (subs.flatMap encSyn).length := by
  match subs, h with
  | [], _ => rfl
  | [s], _ => simp [firstLen]

/-- the PC-AC item length counts the first sub-item only (`firstLen`): with at most one it is the body length -/
theorem encVar_pcAc_tlv (id res : Nat) {subs : List SynItem} (h1 : subs.length ≤ 1) :
    encVar (.pcAc id res subs) = tlv 0x21 0 (u8 id :: 0 :: u8 res :: 0 :: subs.flatMap encSyn) := by
  simp only [encVar, tlv, firstLen_of_le_one h1, List.length_cons]
  have : 4 + (subs.flatMap encSyn).length = (subs.flatMap encSyn).length + 1 + 1 + 1 + 1 := by omega
  rw [this]

theorem isItem_encVar {v : VarItem} (h : varOk v = true) : IsItem (encVar v) := by
  cases v with
  | appCtx u =>
    simp only [varOk, Bool.and_eq_true, lt16_iff] at h
    exact ⟨_, _, _, rfl, h.2⟩
  | pcRq id subs =>
    simp only [varOk, Bool.and_eq_true, Nat.blt_eq] at h
    exact ⟨_, _, _, rfl, by simp only [List.length_cons]; omega⟩
  | pcAc id res subs =>
    simp only [varOk, Bool.and_eq_true, Nat.blt_eq, Nat.ble_eq] at h
    exact ⟨_, _, _, encVar_pcAc_tlv id res h.1.2, by simp only [List.length_cons]; omega⟩
  | userInfo subs =>
    simp only [varOk, Bool.and_eq_true, lt16_iff] at h
    exact ⟨_, _, _, rfl, h.2⟩

theorem decVar_encVar {v : VarItem} (h : varOk v = true) : decVar (itemOf (encVar v)) = .ok v := by
  cases v with
  | appCtx u =>
    simp only [varOk, Bool.and_eq_true] at h
    show decVar (0x10, u) = _
    rw [decVar_10, decUid_ok h.1]; rfl
  | pcRq id subs =>
    simp only [varOk, Bool.and_eq_true, lt8_iff] at h
    show decVar (0x20, u8 id :: 0 :: 0 :: 0 :: subs.flatMap encSyn) = _
    simp only [decVar_20, decPcRq, List.drop_succ_cons, List.drop_zero, decSyn_flatMap false subs h.1.2, u8_toNat h.1.1]
  | pcAc id res subs =>
    simp only [varOk, Bool.and_eq_true, lt8_iff] at h
    obtain ⟨⟨⟨⟨hid, hres⟩, hs⟩, _⟩, _⟩ := h
    show decVar (0x21, u8 id :: 0 :: u8 res :: 0 :: subs.flatMap encSyn) = _
    simp only [decVar_21, decPcAc, List.drop_succ_cons, List.drop_zero, bne_u8_zero hres,
      decSyn_flatMap (res != 0) subs hs, u8_toNat hid, u8_toNat hres]
  | userInfo subs =>
    simp only [varOk, Bool.and_eq_true] at h
    show decVar (0x50, subs.flatMap encUser) = _
    simp only [decVar_50, decUserInfo, decUser_flatMap subs h.1]

theorem decVarItems_flatMap (items : List VarItem) (h : items.all varOk = true) :
    decVarItems (items.flatMap encVar) = .ok items :=
  decSubs_flatMap encVar _ (fun _ hv => ⟨isItem_encVar hv, decVar_encVar hv⟩) items h

theorem lenVar_eq (v : VarItem) (h : varOk v = true) : lenVar v = (encVar v).length := by
  cases v with
  | pcAc id res subs =>
    simp only [varOk, Bool.and_eq_true, Nat.ble_eq] at h
    simp [lenVar, encVar, firstLen_of_le_one h.1.2]
    omega
  | _ => rfl

theorem sum_lenVar (items : List VarItem) (h : items.all varOk = true) :
    (items.map lenVar).sum = (items.flatMap encVar).length := by
  rw [List.length_flatMap, List.map_congr_left fun v hv => lenVar_eq v (List.all_eq_true.mp h v hv)]

theorem decPdvsN_fuel : ∀ (f g : Nat) (b : Bytes), b.length ≤ f → b.length ≤ g → decPdvsN f b = decPdvsN g b :=
  fuel_irrelevant (fun f => by cases f <;> rfl) fun f g b ih => by
    match b with
    | a :: b2 :: c :: d :: id :: rest =>
      simp only [decPdvsN]
      rw [ih (rest.drop (be32 a b2 c d - 1)) (by simp only [List.length_drop, List.length_cons]; omega)]
    | [] | [_] | [_, _] | [_, _, _] | [_, _, _, _] => rfl

theorem decPdvs_cons (p : PDV) (rest : Bytes) (h : pdvOk p = true) :
    decPdvs (encPdv p ++ rest) =
      match decPdvs rest with
      | .ok tl => .ok (p :: tl)
      | .error e => .error e := by
  simp only [pdvOk, Bool.and_eq_true, lt8_iff, Nat.blt_eq] at h
  have hb := be32_u32 (by omega : 1 + p.data.length < 4294967296)
  have hz : ¬ (1 + p.data.length = 0) := by omega
  have hs : 1 + p.data.length - 1 = p.data.length := by omega
  have hlt : ¬ (p.data.length + rest.length < p.data.length) := by omega
  simp only [decPdvs, encPdv, u32, List.cons_append, List.nil_append, List.length_cons, List.length_append,
    decPdvsN, hb, hz, ↓reduceIte, hs, hlt, List.take_left, List.drop_left, u8_toNat h.1]
  rw [decPdvsN_fuel (p.data.length + rest.length + 1 + 1 + 1 + 1) rest.length rest (by omega) (Nat.le_refl _)]
  cases decPdvsN rest.length rest <;> rfl

theorem decPdvs_flatMap (pdvs : List PDV) (h : pdvs.all pdvOk = true) :
    decPdvs (pdvs.flatMap encPdv) = .ok pdvs := by
  induction pdvs with
  | nil => rfl
  | cons p ps ih =>
    simp only [List.all_cons, Bool.and_eq_true] at h
    simp only [List.flatMap_cons, decPdvs_cons p _ h.1, ih h.2]

theorem ljust_length {n : Nat} {b : Bytes} (h : b.length ≤ n) : (ljust n b).length = n := by
  simp [ljust]; omega

theorem isAscii_ljust {n : Nat} {b : Bytes} (h : isAscii b = true) : isAscii (ljust n b) = true := by
  simp [ljust, isAscii_append, h, isAscii_replicate_space]

theorem encAssoc_drop10 (t : UInt8) (ver : Nat) (c g : Bytes) (items : List VarItem) :
    (encAssoc t ver c g items).drop 10 =
      ljust 16 c ++ (ljust 16 g ++ (List.replicate 32 0 ++ items.flatMap encVar)) := rfl

theorem encAssoc_slice6 (t : UInt8) (ver : Nat) (c g : Bytes) (items : List VarItem) :
    slice (encAssoc t ver c g items) 6 2 = [u8 (ver / 256), u8 (ver % 256)] := rfl

theorem encAssoc_slices (t : UInt8) (ver : Nat) (c g : Bytes) (items : List VarItem)
    (hc : c.length ≤ 16) (hg : g.length ≤ 16) :
    slice (encAssoc t ver c g items) 10 16 = ljust 16 c ∧
    slice (encAssoc t ver c g items) 26 16 = ljust 16 g ∧
    (encAssoc t ver c g items).drop 74 = items.flatMap encVar := by
  have h26 : (encAssoc t ver c g items).drop 26 = ((encAssoc t ver c g items).drop 10).drop 16 := by
    rw [List.drop_drop]
  have h74 : (encAssoc t ver c g items).drop 74 = ((((encAssoc t ver c g items).drop 10).drop 16).drop 16).drop 32 := by
    simp only [List.drop_drop]
  refine ⟨?_, ?_, ?_⟩
  · simp only [slice, encAssoc_drop10, List.take_left' (ljust_length hc)]
  · simp only [slice, h26, encAssoc_drop10, List.drop_left' (ljust_length hc), List.take_left' (ljust_length hg)]
  · rw [h74, encAssoc_drop10, List.drop_left' (ljust_length hc), List.drop_left' (ljust_length hg),
      List.drop_left' (by simp : (List.replicate 32 (0 : UInt8)).length = 32)]

theorem decAeRq_ljust {a : Bytes} (h : aeRqOk a = true) : decAeRq (ljust 16 a) = .ok (pyStrip a) := by
  simp only [aeRqOk, Bool.and_eq_true, Nat.ble_eq, Bool.not_eq_true', List.isEmpty_eq_false_iff] at h
  obtain ⟨⟨⟨ha, hl⟩, hne⟩, hc⟩ := h
  have hblt := blt_false (Nat.le_trans (length_pyStrip a) hl)
  have hemp : (pyStrip a).isEmpty = false := by simp [hne]
  simp only [decAeRq, isAscii_ljust ha, ↓reduceIte, pyStrip_ljust, hemp, Bool.false_eq_true, hblt, hc]

theorem decAeAc_ljust {a : Bytes} (h : aeAcOk a = true) : decAeAc (ljust 16 a) = pyStrip a := by
  simp only [aeAcOk, Bool.and_eq_true] at h
  simp only [decAeAc, isAscii_ljust h.1, ↓reduceIte, pyStrip_ljust]

theorem decode_type1 {b : Bytes} (hb : b.head? = some 1) : decode b =
    (match slice b 6 2 with
      | [h, l] =>
        match decAeRq (slice b 10 16) with
        | .error e => .error e
        | .ok called =>
          match decAeRq (slice b 26 16) with
          | .error e => .error e
          | .ok calling =>
            match decVarItems (b.drop 74) with
            | .error e => .error e
            | .ok items => .ok (.rq (be16 h l) called calling items)
      | _ => .error .struct) := by
  match b, hb with
  | _ :: x, rfl => simp only [decode, ↓reduceIte]; rfl

theorem decode_type2 {b : Bytes} (hb : b.head? = some 2) : decode b =
    (match slice b 6 2 with
      | [h, l] =>
        match decVarItems (b.drop 74) with
        | .error e => .error e
        | .ok items => .ok (.ac (be16 h l) (decAeAc (slice b 10 16)) (decAeAc (slice b 26 16)) items)
      | _ => .error .struct) := by
  match b, hb with
  | _ :: x, rfl => simp [decode]; rfl

theorem decode_type4 {b : Bytes} (hb : b.head? = some 4) : decode b =
    (match decPdvs (b.drop 6) with
      | .error e => .error e
      | .ok pdvs => .ok (.pdata pdvs)) := by
  match b, hb with
  | _ :: x, rfl => simp [decode]; rfl

theorem decode_encode (p : PDU) (h : encOk p = true) : decode (encode p) = .ok (canon p) := by
  cases p with
  | rq ver called calling items =>
    simp only [encOk, Bool.and_eq_true, lt16_iff] at h
    obtain ⟨⟨⟨⟨hv, hc⟩, hg⟩, hi⟩, _⟩ := h
    obtain ⟨s1, s2, s3⟩ := encAssoc_slices 1 ver called calling items (aeRqOk_length hc) (aeRqOk_length hg)
    rw [show encode (.rq ver called calling items) = encAssoc 1 ver called calling items from rfl,
      decode_type1 rfl, encAssoc_slice6, s1, s2, s3, decAeRq_ljust hc, decAeRq_ljust hg, decVarItems_flatMap items hi]
    simp only [be16_u16 hv, canon]
  | ac ver called calling items =>
    simp only [encOk, Bool.and_eq_true, lt16_iff] at h
    obtain ⟨⟨⟨⟨hv, hc⟩, hg⟩, hi⟩, _⟩ := h
    obtain ⟨s1, s2, s3⟩ := encAssoc_slices 2 ver called calling items (aeAcOk_length hc) (aeAcOk_length hg)
    rw [show encode (.ac ver called calling items) = encAssoc 2 ver called calling items from rfl,
      decode_type2 rfl, encAssoc_slice6, s1, s2, s3, decAeAc_ljust hc, decAeAc_ljust hg, decVarItems_flatMap items hi]
    simp only [be16_u16 hv, canon]
  | rj r s d =>
    simp only [encOk, Bool.and_eq_true, lt8_iff] at h
    simp [encode, decode, u8_toNat h.1.1, u8_toNat h.1.2, u8_toNat h.2, canon]
  | pdata pdvs =>
    simp only [encOk, Bool.and_eq_true] at h
    rw [decode_type4 rfl, show (encode (.pdata pdvs)).drop 6 = pdvs.flatMap encPdv from rfl,
      decPdvs_flatMap pdvs h.1]; rfl
  | relRq => rfl
  | relRp => rfl
  | abort s r =>
    simp only [encOk, Bool.and_eq_true, lt8_iff] at h
    simp [encode, decode, u8_toNat h.1, u8_toNat h.2, canon]

theorem decode_encode_of_bounded_normal (p : PDU) (hb : bounded p = true) (hn : normal p = true) :
    decode (encode p) = .ok p := by
  obtain ⟨hok, hc⟩ := encOk_of_bounded_normal p hb hn
  rw [decode_encode p hok, hc]

theorem sum_pdvLen (pdvs : List PDV) :
    (pdvs.map (fun p => 5 + p.data.length)).sum = (pdvs.flatMap encPdv).length := by
  rw [List.length_flatMap, List.map_congr_left fun p _ => show 5 + p.data.length = (encPdv p).length by
    simp only [encPdv, List.length_append, u32_length, List.length_cons]; omega]

theorem encode_pdata_mkPdu (pdvs : List PDV) : encode (.pdata pdvs) = mkPdu 4 0 (pdvs.flatMap encPdv) := by
  simp only [encode, sum_pdvLen]; rfl

/-- the PDU length written by `encAssoc` (68 + what the items announce) is the number of bytes that
follow the header as soon as every item announces its own byte count (`sum_lenVar`) -/
theorem encAssoc_mkPdu (t : UInt8) (ver : Nat) (c g : Bytes) (items : List VarItem)
    (hc : c.length ≤ 16) (hg : g.length ≤ 16) (hi : items.all varOk = true) :
    ∃ body, encAssoc t ver c g items = mkPdu t 0 body ∧
      body.length = 68 + (items.flatMap encVar).length ∧ body.drop 68 = items.flatMap encVar := by
  have hlen : ((encAssoc t ver c g items).drop 6).length = 68 + (items.flatMap encVar).length := by
    show (u16 ver ++ (0 :: 0 :: (ljust 16 c ++ (ljust 16 g ++
      (List.replicate 32 0 ++ items.flatMap encVar))))).length = _
    simp only [List.length_append, u16_length, List.length_cons, ljust_length hc, ljust_length hg,
      List.length_replicate]
    omega
  refine ⟨(encAssoc t ver c g items).drop 6, ?_, hlen, ?_⟩
  · show t :: 0 :: (u32 (68 + (items.map lenVar).sum) ++ _) = t :: 0 :: (u32 _ ++ _)
    rw [hlen, sum_lenVar items hi]
    rfl
  · rw [List.drop_drop]
    exact (encAssoc_slices t ver c g items hc hg).2.2

theorem encode_mkPdu (p : PDU) (h : encOk p = true) :
    ∃ t r body, encode p = mkPdu t r body ∧ validType t = true ∧ body.length < 4294967296 := by
  cases p with
  | rq ver called calling items =>
    simp only [encOk, Bool.and_eq_true, Nat.blt_eq] at h
    obtain ⟨body, he, hbl, _⟩ := encAssoc_mkPdu 1 ver called calling items (aeRqOk_length h.1.1.1.2)
      (aeRqOk_length h.1.1.2) h.1.2
    exact ⟨1, 0, body, he, rfl, by omega⟩
  | ac ver called calling items =>
    simp only [encOk, Bool.and_eq_true, Nat.blt_eq] at h
    obtain ⟨body, he, hbl, _⟩ := encAssoc_mkPdu 2 ver called calling items (aeAcOk_length h.1.1.1.2)
      (aeAcOk_length h.1.1.2) h.1.2
    exact ⟨2, 0, body, he, rfl, by omega⟩
  | rj r s d => exact ⟨3, 0, [0, u8 r, u8 s, u8 d], by simp [encode, mkPdu], rfl, by simp⟩
  | pdata pdvs =>
    simp only [encOk, Bool.and_eq_true, lt32_iff] at h
    exact ⟨4, 0, _, encode_pdata_mkPdu pdvs, rfl, h.2⟩
  | relRq => exact ⟨5, 0, [0, 0, 0, 0], rfl, rfl, by decide⟩
  | relRp => exact ⟨6, 0, [0, 0, 0, 0], rfl, rfl, by decide⟩
  | abort s r => exact ⟨7, 0, [0, 0, u8 s, u8 r], by simp [encode, mkPdu], rfl, by simp⟩

theorem accept_ok {b : Bytes} {p : PDU} : accept b = .ok p ↔ decode b = .ok p ∧ ∃ a, toPrim p = .ok a := by
  unfold accept
  cases decode b with
  | error e => simp
  | ok q =>
    cases h : toPrim q with
    | error e =>
      simp only [h, Except.ok.injEq, reduceCtorEq, false_iff]
      rintro ⟨rfl, a, ha⟩; rw [h] at ha; cases ha
    | ok a =>
      simp only [h, Except.ok.injEq]
      exact ⟨by rintro rfl; exact ⟨rfl, a, h⟩, fun h' => h'.1⟩

theorem classify_encode (p : PDU) (hok : encOk p = true) {a : Prim} (ha : toPrim (canon p) = .ok a) (more : Bytes) :
    classify (encode p ++ more) = .ok (canon p) := by
  obtain ⟨t, r, body, he, ht, hl⟩ := encode_mkPdu p hok
  obtain ⟨ks', _, hr⟩ := readPdu_mk t r body more [] ht hl (fun _ h => nomatch h)
  simp only [classify, he, hr]
  rw [← he]
  simp only [accept, decode_encode p hok, ha]

end PynetVerif.Pdu
