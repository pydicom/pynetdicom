import PynetVerif.Lemmas.PduBytes
/-! What any decoder output satisfies (`bounded`). -/
namespace PynetVerif.Pdu

theorem liftUid_ok {α : Type} {f : Bytes → α} {r : Except Err Bytes} {y : α} (h : liftUid f r = .ok y) :
    ∃ u, r = .ok u ∧ y = f u := by
  cases r with
  | error e => cases h
  | ok u => simp only [liftUid, Except.ok.injEq] at h; exact ⟨u, rfl, h.symm⟩

theorem toNat_lt8 (c : UInt8) : lt8 c.toNat = true := by
  have := c.toNat_lt; simp [lt8]; omega

/-! Each lemma below inverts one decoder by `fun_cases`, as `decUid_bounded` does. -/

theorem decSyn_bounded (k : Bool) (x : UInt8 × Bytes) (s : SynItem) : decSyn k x = .ok s → synB k s = true := by
  fun_cases decSyn k x <;> intro h
  · obtain ⟨u, hu, rfl⟩ := liftUid_ok h; exact decUid_bounded hu
  · obtain ⟨u, hu, rfl⟩ := liftUid_ok h; exact decUid_bounded hu
  · cases h

theorem decRelatedN_bounded (fuel : Nat) (b : Bytes) (rel : List Bytes) (h : decRelatedN fuel b = .ok rel) :
    rel.all relB = true := by
  fun_induction decRelatedN fuel b generalizing rel <;> cases h
  · rfl
  · rename_i ha uid _ hz _ htl ih
    simp only [Bool.or_eq_true, decide_eq_true_eq, not_or, Nat.blt_eq] at hz
    simp only [List.all_cons, ih _ htl, Bool.and_true, relB, uidB, Bool.not_true, Bool.false_or, Bool.and_eq_true,
      Nat.ble_eq, Bool.not_eq_true', List.isEmpty_eq_false_iff]
    exact ⟨⟨⟨isAscii_pyStrip ha, trimmed_pyStrip _⟩, Nat.le_of_not_lt hz.2⟩, fun hnil => hz.1 (by rw [hnil]; rfl)⟩

theorem decImplVer_bounded {raw n : Bytes} : decImplVer raw = .ok n → implVerOk n = true := by
  fun_cases decImplVer raw <;> intro h <;> cases h
  rename_i ha hl hc
  simp only [implVerOk, ha, hc, Bool.true_and, Bool.and_true, Nat.ble_eq]
  simpa [Nat.blt_eq] using hl

theorem decMaxLen_bounded {b : Bytes} {s : UserSub} : decMaxLen b = .ok s → userB s = true := by
  fun_cases decMaxLen b <;> intro h <;> cases h
  simp only [userB, lt32_iff]; exact be32_lt ..

theorem decAsync_bounded {b : Bytes} {s : UserSub} : decAsync b = .ok s → userB s = true := by
  fun_cases decAsync b <;> intro h <;> cases h
  simp only [userB, Bool.and_eq_true, lt16_iff]; exact ⟨be16_lt .., be16_lt ..⟩

theorem decRole_bounded {b : Bytes} {s : UserSub} : decRole b = .ok s → userB s = true := by
  fun_cases decRole b <;> intro h <;> cases h
  rename_i hu _ _ _ _ hr
  simp only [Bool.and_eq_true] at hr
  simp only [userB, decUid_bounded hu, hr.1, hr.2, Bool.and_self]

theorem decSopExt_bounded {b : Bytes} {s : UserSub} : decSopExt b = .ok s → userB s = true := by
  fun_cases decSopExt b <;> intro h <;> cases h
  rename_i hu
  exact decUid_bounded hu

theorem decCommon_bounded {b : Bytes} {s : UserSub} : decCommon b = .ok s → userB s = true := by
  fun_cases decCommon b <;> intro h <;> cases h
  -- the hypotheses of the branch, in the order of `decCommon`: the SOP class UID decodes (`hsop`), the next field
  -- has a header, the service class UID decodes (`hsvc`), the related UIDs decode (`hrel`)
  rename_i hsop _ _ _ _ _ _ hsvc _ hrel
  simp only [userB, beq_self_eq_true, decUid_bounded hsop, decUid_bounded hsvc, decRelatedN_bounded _ _ _ hrel,
    Bool.and_self]

theorem decUserIdRq_bounded {b : Bytes} {s : UserSub} : decUserIdRq b = .ok s → userB s = true := by
  fun_cases decUserIdRq b <;> intro h <;> cases h
  simp only [userB, toNat_lt8, Bool.and_self]

theorem decUser_bounded (x : UInt8 × Bytes) (s : UserSub) : decUser x = .ok s → userB s = true := by
  fun_cases decUser x
  · exact decMaxLen_bounded
  · intro h; obtain ⟨u, hu, rfl⟩ := liftUid_ok h; exact decUid_bounded hu
  · exact decAsync_bounded
  · exact decRole_bounded
  · intro h; obtain ⟨u, hu, rfl⟩ := liftUid_ok h; exact decImplVer_bounded hu
  · exact decSopExt_bounded
  · exact decCommon_bounded
  · exact decUserIdRq_bounded
  · intro h; cases h; rfl
  · intro h; cases h

theorem decPcRq_bounded {b : Bytes} {v : VarItem} : decPcRq b = .ok v → varB v = true := by
  fun_cases decPcRq b <;> intro h <;> cases h
  rename_i hs
  simp only [varB, toNat_lt8, decSubs_all (decSyn_bounded false) hs, Bool.and_self]

theorem decPcAc_bounded {b : Bytes} {v : VarItem} : decPcAc b = .ok v → varB v = true := by
  fun_cases decPcAc b <;> intro h <;> cases h
  rename_i hs
  simp only [varB, toNat_lt8, bne_toNat_zero, decSubs_all (decSyn_bounded _) hs, Bool.and_self]

theorem decUserInfo_bounded {b : Bytes} {v : VarItem} : decUserInfo b = .ok v → varB v = true := by
  fun_cases decUserInfo b <;> intro h <;> cases h
  rename_i hs
  exact decSubs_all decUser_bounded hs

theorem decVar_bounded (x : UInt8 × Bytes) (v : VarItem) : decVar x = .ok v → varB v = true := by
  fun_cases decVar x
  · intro h; obtain ⟨u, hu, rfl⟩ := liftUid_ok h; exact decUid_bounded hu
  · exact decPcRq_bounded
  · exact decPcAc_bounded
  · exact decUserInfo_bounded
  · intro h; cases h

theorem decPdvsN_bounded (fuel : Nat) (b : Bytes) (pdvs : List PDV) (h : decPdvsN fuel b = .ok pdvs) :
    pdvs.all (fun p => lt8 p.id) = true := by
  fun_induction decPdvsN fuel b generalizing pdvs <;> cases h
  · rfl
  · rename_i htl ih
    simp only [List.all_cons, toNat_lt8, ih _ htl, Bool.and_self]

theorem decAeRq_bounded {raw v : Bytes} : decAeRq raw = .ok v → (aeRqOk v && trimmed v) = true := by
  fun_cases decAeRq raw <;> intro h <;> simp only [Except.ok.injEq, reduceCtorEq] at h
  subst h
  rename_i ha w hne hl hc
  have ht : trimmed w = true := trimmed_pyStrip raw
  simp only [aeRqOk, Bool.and_eq_true, Nat.ble_eq, pyStrip_of_trimmed ht, Bool.not_eq_true']
  exact ⟨⟨⟨⟨isAscii_pyStrip ha, by simpa [Nat.blt_eq] using hl⟩, by simpa using hne⟩, hc⟩, ht⟩

theorem slice_length_le (b : Bytes) (o n : Nat) : (slice b o n).length ≤ n := by
  simp [slice, List.length_take]; omega

theorem decAeAc_bounded (raw : Bytes) (hl : raw.length ≤ 16) : (aeAcOk (decAeAc raw) && trimmed (decAeAc raw)) = true := by
  simp only [decAeAc]
  split
  · rename_i ha
    have := length_pyStrip raw
    simp only [aeAcOk, Bool.and_eq_true, Nat.ble_eq]
    exact ⟨⟨isAscii_pyStrip ha, by omega⟩, trimmed_pyStrip raw⟩
  · rfl

theorem decode_bounded (b : Bytes) (p : PDU) (h : decode b = .ok p) : bounded p = true := by
  -- one goal per branch of `decode`; the tests passed on the way rewrite `h` to `_ = ok p`, which leaves the
  -- seven branches that return a PDU
  fun_cases decode b <;> simp only [decode, ↓reduceIte, *] at h <;> cases h
  · rename_i hc hg hi  -- A-ASSOCIATE-RQ
    simp only [bounded, decAeRq_bounded hc, decAeRq_bounded hg, decSubs_all decVar_bounded hi, Bool.and_true, lt16_iff]
    exact be16_lt ..
  · rename_i hi  -- A-ASSOCIATE-AC
    simp only [bounded, decAeAc_bounded _ (slice_length_le ..), decSubs_all decVar_bounded hi, Bool.and_true, lt16_iff]
    exact be16_lt ..
  · simp only [bounded, toNat_lt8, Bool.and_self]  -- A-ASSOCIATE-RJ
  · rename_i hp  -- P-DATA-TF
    exact decPdvsN_bounded _ _ _ hp
  · rfl  -- A-RELEASE-RQ
  · rfl  -- A-RELEASE-RP
  · simp only [bounded, toNat_lt8, Bool.and_self]  -- A-ABORT

end PynetVerif.Pdu
