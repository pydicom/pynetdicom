import PynetVerif.Lemmas.PairAct
import PynetVerif.Props.C05Inv
/-!
The single-reactor invariant the agreement proof of the product model rests on (`SInv`): under
synchronously-admissible local behaviour, no injected send failure, and a peer that delivers only
well-formed PDUs (`GoodWire`: what `wireOf` produces) or EOF —
* no Evt19 is ever queued, the received-PDU queue stays aligned with the PDU events of the event
  queue (outside Sta13), and only A-ABORT PDUs carry the `alt` bit;
* every queued Evt17 is justified: the socket object is closed, or the connect failed (Sta4), or EOF
  is at the head of the inbox and no PDU event is queued behind it;
* `connectOk`/`connectFail` are only ever queued in Sta4.
-/
namespace PynetVerif
open Dul Fsm

namespace PairL

/-- a readable item the other reactor can produce: EOF, or a PDU whose `alt` bit is only set on A-ABORT -/
def GoodWire (w : Wire) : Prop := w = .eof ∨ ∃ e alt, w = .pdu e alt ∧ pduEv e = true ∧ (alt = true → e = 16)

theorem goodWire_wireOk {w : Wire} (h : GoodWire w) : wireOk w = true := by
  rcases h with h | ⟨e, alt, h, he, _⟩ <;> subst h
  · rfl
  · exact he

/-- every queued Evt17 is justified -/
def K (x : St) : Prop :=
  x.kill = false → ∀ pre post, x.eventQ = pre ++ 17 :: post →
    x.connected = false ∨ x.fsm = 4 ∨ (x.inbox.head? = some .eof ∧ ∀ z ∈ post, pduEv z = false)

/-- `nb`: no send failure has been injected.  `p4`: the results of the connect attempt (`connectOk`,
`connectFail`), which AE-1 queues itself, are only ever pending in Sta4.  `n19`: no Evt19 is queued.
`box`: the inbox holds what a reactor can send.  `rcv`: only A-ABORT PDUs carry the `alt` bit.  `al`:
outside Sta13 the received-PDU queue is aligned with the PDU events of the event queue.  `nr`: in Sta1
the socket object of a running reactor is connected just if the reactor is the acceptor's (the
requestor connects in AE-1, on leaving Sta1).  `snt`: only PDUs are on the wire.  `k`: `K`. -/
structure Core (x : St) : Prop where
  nb : x.broken = false
  p4 : x.kill = false → ∀ p ∈ x.provQ, userPrim p = false → x.fsm = 4
  n19 : ∀ z ∈ x.eventQ, z ≠ 19
  box : ∀ w ∈ x.inbox, GoodWire w
  rcv : ∀ q ∈ x.recvPdu, q.2 = true → q.1 = 16
  al : x.kill = false → x.fsm ≠ 13 → x.recvPdu.map (·.1) = x.eventQ.filter pduEv
  nr : x.kill = false → x.fsm = 1 → x.connected = !x.requestor
  snt : ∀ f ∈ x.sent, isSend f = true
  k : K x

structure SInv (x : St) : Prop where
  inv : C05Inv.Inv x
  core : Core x

/-- nothing is queued at the start but the acceptor's Evt5 -/
theorem core_init (requestor : Bool) : Core (if requestor then initRequestor else initAcceptor) := by
  have h17 : ∀ pre post : List Nat, [5] ≠ pre ++ 17 :: post := by
    intro pre post h
    have : (17 : Nat) ∈ [5] := by rw [h]; simp
    simp at this
  cases requestor
  · exact ⟨rfl, fun _ _ hp => (nomatch hp), by simp [initAcceptor], fun _ hw => (nomatch hw), fun _ hq => (nomatch hq),
      fun _ _ => rfl, fun _ _ => rfl, fun _ hf => (nomatch hf), fun _ pre post h => absurd h (h17 pre post)⟩
  · exact ⟨rfl, fun _ _ hp => (nomatch hp), fun _ hz => (nomatch hz), fun _ hw => (nomatch hw), fun _ hq => (nomatch hq),
      fun _ _ => rfl, fun _ _ => rfl, fun _ hf => (nomatch hf), fun _ pre post h => by cases pre <;> cases h⟩

theorem append_eq_split {α : Type} {l1 l2 pre post : List α} {x : α} (h : l1 ++ l2 = pre ++ x :: post) :
    (∃ post1, l1 = pre ++ x :: post1 ∧ post = post1 ++ l2) ∨ (∃ pre2, pre = l1 ++ pre2 ∧ l2 = pre2 ++ x :: post) := by
  rcases List.append_eq_append_iff.mp h with ⟨a', h1, h2⟩ | ⟨c', h1, h2⟩
  · exact Or.inr ⟨a', h1, h2⟩
  · cases c' with
    | nil => exact Or.inr ⟨[], by simpa using h1.symm, h2.symm⟩
    | cons y ys => cases h2; exact Or.inl ⟨ys, h1, rfl⟩

/-- `K` after one event `z` is queued: an older Evt17 keeps its justification (`hold`: EOF stays at the
head of the inbox and `z` is no PDU event), and `z` itself, if it is Evt17, comes with one (`hnew`) -/
theorem k_snoc {x y : St} {z : Nat} (h : K x) (hk : y.kill = x.kill) (hc : y.connected = x.connected)
    (hf : y.fsm = x.fsm) (hq : y.eventQ = x.eventQ ++ [z])
    (hold : x.inbox.head? = some .eof → y.inbox.head? = some .eof ∧ pduEv z = false)
    (hnew : z = 17 → y.connected = false ∨ y.fsm = 4 ∨ y.inbox.head? = some .eof) : K y := by
  intro hk' pre post hq'
  rw [hc, hf]
  rcases append_eq_split (hq ▸ hq') with ⟨post1, h1, h2⟩ | ⟨pre2, _, h2⟩
  · rcases h (hk ▸ hk') pre post1 h1 with d | d | ⟨d1, d2⟩
    · exact Or.inl d
    · exact Or.inr (Or.inl d)
    · exact Or.inr (Or.inr ⟨(hold d1).1, h2 ▸ List.forall_mem_append.mpr ⟨d2, by simpa using (hold d1).2⟩⟩)
  · obtain ⟨hz, hpost⟩ : z = 17 ∧ post = [] := by
      cases pre2 with
      | nil => cases h2; exact ⟨rfl, rfl⟩
      | cons _ t => cases t <;> cases h2
    rw [← hc, ← hf, hpost]
    rcases hnew hz with d | d | d
    · exact Or.inl d
    · exact Or.inr (Or.inl d)
    · exact Or.inr (Or.inr ⟨d, fun _ hw => nomatch hw⟩)

theorem core_env (x : St) (e : Env) (hok : stepOkSync x (.env e) = true) (hnb : e ≠ .breakConn)
    (hpeer : ∀ w, e = .peer w → GoodWire w) (h : Core x) : Core (env e x) := by
  cases e with
  | peer w =>
    refine { nb := h.nb, p4 := h.p4, n19 := h.n19, box := List.forall_mem_append.mpr ⟨h.box, by simpa using hpeer w rfl⟩,
             rcv := h.rcv, al := h.al, nr := h.nr, snt := h.snt, k := ?_ }
    · -- EOF at the head of the inbox stays at its head
      intro hk pre post hq
      rcases h.k hk pre post hq with d | d | ⟨d1, d2⟩
      · exact Or.inl d
      · exact Or.inr (Or.inl d)
      · refine Or.inr (Or.inr ⟨?_, d2⟩)
        show (x.inbox ++ [w]).head? = some .eof
        cases hi : x.inbox with
        | nil => rw [hi] at d1; cases d1
        | cons y ys => rw [hi] at d1; simpa using d1
  | breakConn => exact absurd rfl hnb
  | artimFire => exact ⟨h.nb, h.p4, h.n19, h.box, h.rcv, h.al, h.nr, h.snt, h.k⟩
  | connectWillFail => exact ⟨h.nb, h.p4, h.n19, h.box, h.rcv, h.al, h.nr, h.snt, h.k⟩
  | «local» p =>
    -- the association code never issues the connect results itself
    simp only [stepOkSync, Bool.and_eq_true] at hok
    refine { nb := h.nb, p4 := ?_, n19 := h.n19, box := h.box, rcv := h.rcv, al := h.al, nr := h.nr, snt := h.snt, k := h.k }
    exact fun hk => List.forall_mem_append.mpr ⟨h.p4 hk, by simp [hok.1.2]⟩

theorem core_push (x : St) (z : Nat) (hz : pduEv z = false) (h19 : z ≠ 19)
    (h17 : z = 17 → x.connected = false ∨ x.fsm = 4 ∨ x.inbox.head? = some .eof) (h : Core x) :
    Core { x with eventQ := x.eventQ ++ [z] } := by
  refine { nb := h.nb, p4 := h.p4, n19 := List.forall_mem_append.mpr ⟨h.n19, by simpa using h19⟩, box := h.box,
           rcv := h.rcv, al := ?_, nr := h.nr, snt := h.snt, k := k_snoc h.k rfl rfl rfl rfl (fun d => ⟨d, hz⟩) h17 }
  intro hk h13
  show x.recvPdu.map (·.1) = (x.eventQ ++ [z]).filter pduEv
  rw [filter_pduEv_append_of_all _ [z] (by simpa using hz)]; exact h.al hk h13

theorem core_phaseB (x : St) (b : Bool) (h : Core x) : Core { x with phaseB := b } :=
  ⟨h.nb, h.p4, h.n19, h.box, h.rcv, h.al, h.nr, h.snt, h.k⟩

/-- reading a PDU: its event is queued with its PDU, so the two queues stay aligned -/
theorem core_read (x : St) (e : Nat) (alt : Bool) (rest : List Wire) (heq : x.inbox = .pdu e alt :: rest) (h : Core x) :
    Core { x with inbox := rest, eventQ := x.eventQ ++ [e], recvPdu := x.recvPdu ++ [(e, alt)] } := by
  obtain ⟨hpe, halt⟩ : pduEv e = true ∧ (alt = true → e = 16) := by
    rcases h.box (.pdu e alt) (by rw [heq]; simp) with hg | ⟨e', alt', hg, h1, h2⟩
    · cases hg
    · cases hg; exact ⟨h1, h2⟩
  refine { nb := h.nb, p4 := h.p4, n19 := List.forall_mem_append.mpr ⟨h.n19, by simp; rintro rfl; cases hpe⟩,
           box := fun w hw => h.box w (heq ▸ List.mem_cons_of_mem _ hw),
           rcv := List.forall_mem_append.mpr ⟨h.rcv, by simpa using halt⟩, al := ?_, nr := h.nr, snt := h.snt,
           k := k_snoc h.k rfl rfl rfl rfl (fun d => by rw [heq] at d; cases d) (fun h17 => by rw [h17] at hpe; cases hpe) }
  intro hk h13
  show (x.recvPdu ++ [(e, alt)]).map (·.1) = (x.eventQ ++ [e]).filter pduEv
  rw [List.map_append, List.filter_append, h.al hk h13]
  simp [List.filter, hpe]

theorem core_disconnect (x : St) (h1 : x.kill = true ∨ x.fsm ≠ 1) (h : Core x) : Core { x with connected := false } := by
  refine { nb := h.nb, p4 := h.p4, n19 := h.n19, box := h.box, rcv := h.rcv, al := h.al, nr := ?_, snt := h.snt, k := ?_ }
  · intro hk hf
    rcases h1 with h1 | h1
    · rw [hk] at h1; cases h1
    · exact absurd hf h1
  · intro _ _ _ _; exact Or.inl rfl

theorem prim_event_ne_19 (p : Prim) : p.event ≠ 19 := by cases p <;> simp [Prim.event]

theorem prim_event_17 {p : Prim} (h : p.event = 17) : p = .connectFail := by
  cases p <;> first | rfl | (simp [Prim.event] at h)

theorem core_iterA (x : St) (h : Core x) : Core (iterA x) := by
  rcases iterA_cases x with hi | ⟨pre, ex, i, r, c, hpre, hs, hk, hi⟩ <;> rw [hi]
  · exact h
  refine core_phaseB { x with eventQ := x.eventQ ++ pre ++ ex, inbox := i, recvPdu := r, connected := c } _ ?_
  have h1 : Core { x with eventQ := x.eventQ ++ pre } := by
    rcases hpre with rfl | rfl
    · simpa using h
    · exact core_push x 18 rfl (by decide) (fun h => nomatch h) h
  cases hs with
  | none => simpa using h1
  | prim p ps hp =>
    -- the connect result is only ever queued in Sta4: that justifies the Evt17 of `connectFail`
    refine core_push _ p.event (C05Inv.pduEv_prim p) (prim_event_ne_19 p) (fun h17 => Or.inr (Or.inl ?_)) h1
    exact h.p4 hk p (by rw [hp]; simp) (by rw [prim_event_17 h17]; rfl)
  | pdu e alt _ heq => exact core_read { x with eventQ := x.eventQ ++ pre } e alt _ heq h1
  | invalid rest heq => rcases h.box .invalid (by rw [heq]; simp) with hg | ⟨_, _, hg, _⟩ <;> cases hg
  | eof rest heq => exact core_push _ 17 rfl (by decide) (fun _ => Or.inr (Or.inr (by rw [heq]; rfl))) h1
  | close h13 hc =>
    exact core_push _ 17 rfl (by decide) (fun _ => Or.inl rfl) (core_disconnect _ (Or.inr (by rw [h13]; decide)) h1)

/-- what the product-model proofs need of one table row (event, state, action) -/
structure RowOk2 (e st : Nat) (a : Action) : Prop where
  /-- outside Sta13 an action that leads neither to Sta13 nor to Sta1 consumes a PDU just if its event is a PDU event -/
  pduNext : st ≠ 13 → ∀ req alt b : Bool,
    (effB a req alt b).2 = 13 ∨ (effB a req alt b).2 = 1 ∨ popsPdu a = pduEv e
  /-- Sta13 is left only for Sta1 -/
  from13 : st = 13 → ∀ req alt b : Bool, (effB a req alt b).2 = 13 ∨ (effB a req alt b).2 = 1
  dt2ar6 : (a = .DT_2 ∨ a = .AR_6) → e = 10 ∧ st ≠ 13
  ae6 : a = .AE_6 → e = 6 ∧ st = 2
  /-- in Sta4 an action pops the pending primitive or leads to Sta1 -/
  sta4 : st = 4 → popsPrim a = true ∨ ∀ req alt b : Bool, (effB a req alt b).2 = 1
  range : 1 ≤ e ∧ e ≤ 19
  ar3 : a = .AR_3 → e = 13

instance (e st : Nat) (a : Action) : Decidable (RowOk2 e st a) :=
  decidable_of_iff' _ ⟨fun h => And.intro h.pduNext <| And.intro h.from13 <| And.intro h.dt2ar6 <| And.intro h.ae6 <|
      And.intro h.sta4 <| And.intro h.range h.ar3,
    fun ⟨h1, h2, h3, h4, h5, h6, h7⟩ => ⟨h1, h2, h3, h4, h5, h6, h7⟩⟩

theorem rowOk2_all : ∀ row ∈ Spec.Ps38.table, RowOk2 row.1 row.2.1 row.2.2 := by decide +kernel

theorem rowOk2 {e st : Nat} {a : Action} (h : lookup Spec.Ps38.table e st = some a) : RowOk2 e st a :=
  rowOk2_all (e, st, a) (lookup_mem h)

/-- in Sta4, and in Sta1 unless the acceptor's Evt5 is at the head, a live reactor in phase B has
exactly one pending primitive and exactly its event queued -/
theorem shape_14 (s : St) (hL : C05Inv.Live s) (hph : s.phaseB = true)
    (h : s.fsm = 4 ∨ (s.fsm = 1 ∧ s.eventQ.head? ≠ some 5)) : ∃ p, s.provQ = [p] ∧ s.eventQ = [p.event] := by
  obtain ⟨_, _, art, _, shape⟩ := hL
  cases shape with
  | loc p hp _ _ hq =>
    rcases hq with ⟨hb, _⟩ | ⟨_, hq⟩
    · rw [hph] at hb; cases hb
    · exact ⟨p, hp, hq⟩
  | tr _ _ h1 h4 _ =>
    rcases h with h | ⟨h, _⟩
    · exact absurd h h4
    · exact absurd h h1
  | acc _ _ h1 r hq _ =>
    rcases h with h | ⟨_, h⟩
    · rw [h1] at h; cases h
    · rw [hq] at h; exact absurd rfl h
  | req _ _ _ _ _ hb => rw [hph] at hb; cases hb
  | exp _ he _ =>
    obtain ⟨_, h213⟩ := C05Inv.artimOk_expired art he
    rcases h with h | ⟨h, _⟩ <;> rcases h213 with h' | h' <;> rw [h] at h' <;> cases h'

/-- the PDU at the head of the received-PDU queue belongs to the PDU event being dispatched, and only
A-ABORT PDUs carry the `alt` bit -/
theorem altOf_false (s : St) (hs : Core s) (hk : s.kill = false) (h13 : s.fsm ≠ 13) (e : Nat) (rest : List Nat)
    (hq : s.eventQ = e :: rest) (hpe : pduEv e = true) (h16 : e ≠ 16) (a : Action) : altOf s a e = false := by
  have hal : s.recvPdu.map (·.1) = e :: rest.filter pduEv := by
    rw [hs.al hk h13, hq, List.filter_cons_of_pos hpe]
  unfold altOf
  split
  · match hr : s.recvPdu with
    | [] => rfl
    | (q1, false) :: _ => rfl
    | (q1, true) :: _ =>
      rw [hr] at hal
      exact absurd ((List.cons.inj hal).1 ▸ hs.rcv (q1, true) (by rw [hr]; simp) rfl) h16
  · rfl

/-- everything the product-model proofs need to know about one completed action: `t` is the state
after the action `a` on event `e` popped from `s`'s event queue (`rest` remains) -/
structure Acted (s t : St) (e : Nat) (rest : List Nat) (a : Action) (alt b : Bool) : Prop where
  fsm : t.fsm = (effB a s.requestor alt b).2
  kill : t.kill = (s.kill || (effB a s.requestor alt b).2 == 1)
  inbox : t.inbox = s.inbox
  recvPdu : t.recvPdu = if popsPdu a then s.recvPdu.tail else s.recvPdu
  requestor : t.requestor = s.requestor
  conn : t.connected = (runP s.connectOk s.connected (usedEffs a (effB a s.requestor alt b).1)).conn
  sent : t.sent = (runP s.connectOk s.connected (usedEffs a (effB a s.requestor alt b).1)).sent ++ s.sent
  eventQ : t.eventQ = rest ++ (runP s.connectOk s.connected (usedEffs a (effB a s.requestor alt b).1)).q
  broken : t.broken = false
  log : t.log = ⟨e, s.fsm, some a, (effB a s.requestor alt b).2, true⟩ :: s.log
  altAE6 : a = .AE_6 → alt = false

theorem acted_facts (s s' : St) (hs : Core s) (hk : s.kill = false) (e : Nat) (rest : List Nat) (a : Action)
    (hq : s.eventQ = e :: rest) (hl : lookup Spec.Ps38.table e s.fsm = some a)
    (hs' : s' = { s with eventQ := rest, phaseB := false }) : ∃ alt b, Acted s (act s' a e) e rest a alt b := by
  subst hs'
  obtain ⟨alt, b, heff, halt⟩ := effectsOf_eq { s with eventQ := rest, phaseB := false } a e
  obtain ⟨p1, p2, p3, p4⟩ := act_proj { s with eventQ := rest, phaseB := false } a e hs.nb
  -- DT-2/AR-6 queue no Evt19: the P-DATA PDU they consume is decodable (`altOf` reads `recvPdu` only)
  have hc19 : ((a = .DT_2 || a = .AR_6) && altOf { s with eventQ := rest, phaseB := false } a e) = false := by
    cases ha : (decide (a = .DT_2) || decide (a = .AR_6)) with
    | false => rfl
    | true =>
      obtain ⟨he, h13⟩ := (rowOk2 hl).dt2ar6 (by simpa using ha)
      exact altOf_false s hs hk h13 e rest hq (by rw [he]; rfl) (by rw [he]; decide) a
  rw [heff] at p1 p2 p3
  rw [hc19] at p3
  refine ⟨alt, b, ?_⟩
  refine { fsm := by rw [act_eq, heff], kill := by rw [act_eq, heff], inbox := by rw [act_eq], recvPdu := by rw [act_eq],
           requestor := by rw [act_eq], conn := p1, sent := p2, eventQ := ?_, broken := p4,
           log := by rw [act_eq, heff], altAE6 := ?_ }
  · rw [p3]; simp
  · intro ha
    obtain ⟨he, h2⟩ := (rowOk2 hl).ae6 ha
    rw [halt (by rw [ha]; decide)]
    exact altOf_false s hs hk (by rw [h2]; decide) e rest hq (by rw [he]; rfl) (by rw [he]; decide) a

theorem core_acted (s s' : St) (hs : Core s) (hL : C05Inv.Live s) (hph : s.phaseB = true) (hk : s.kill = false)
    (e : Nat) (rest : List Nat) (a : Action) (hq : s.eventQ = e :: rest)
    (hl : lookup Spec.Ps38.table e s.fsm = some a) (hs' : s' = { s with eventQ := rest, phaseB := false }) :
    Core (act s' a e) := by
  obtain ⟨alt, b, A⟩ := acted_facts s s' hs hk e rest a hq hl hs'
  obtain ⟨_, _, hae1, _, hR⟩ := rowOk hl
  have hprovQ : a ≠ .AE_1 → (act s' a e).provQ = (popInputs s' a).provQ :=
    fun ha => act_provQ _ a e ((effectsOf_of_effB hR s' e).connect ha).1
  have hp0 : s'.provQ = s.provQ := by rw [hs']
  generalize act s' a e = t at A hprovQ
  have R := runP_table a s.requestor alt b s.connectOk s.connected
  have T := rowOk2 hl
  have hn1 : t.kill = false → (effB a s.requestor alt b).2 ≠ 1 := by
    intro h hn; rw [A.kill, hn] at h; simp at h
  -- in Sta4, and when AE-1 is dispatched, nothing else is queued
  have hrest : s.fsm = 4 ∨ a = .AE_1 → rest = [] := by
    intro h
    obtain ⟨p, _, hp2⟩ := shape_14 s hL hph (h.imp id fun ha => ⟨(hae1 ha).2, by rw [hq, (hae1 ha).1]; simp⟩)
    rw [hq] at hp2
    exact (List.cons.inj hp2).2
  refine { nb := A.broken, p4 := ?p4, n19 := ?n19, box := ?box, rcv := ?rcv, al := ?al, nr := ?nr, snt := ?snt, k := ?k }
  case p4 =>
    intro hk' p hp hu
    rw [A.fsm]
    by_cases ha : a = .AE_1
    · subst ha; rfl
    · exfalso
      rw [hprovQ ha] at hp
      have hp' : p ∈ s.provQ := hp0 ▸ popInputs_provQ_subset _ a p hp
      have h4 : s.fsm = 4 := hs.p4 hk p hp' hu
      obtain ⟨p', hp1, _⟩ := shape_14 s hL hph (Or.inl h4)
      rcases T.sta4 h4 with hpp | h1
      · rw [popInputs_provQ_single s' a p' (hp0.trans hp1) (Or.inl hpp)] at hp
        cases hp
      · exact hn1 hk' (h1 _ _ _)
  case n19 =>
    rw [A.eventQ]
    exact List.forall_mem_append.mpr ⟨fun z h' => hs.n19 z (hq ▸ List.mem_cons_of_mem _ h'), fun z h' => by rw [R.q17 z h']; decide⟩
  case box => rw [A.inbox]; exact hs.box
  case rcv =>
    intro q hq'
    rw [A.recvPdu] at hq'
    split at hq'
    · exact hs.rcv q (List.mem_of_mem_tail hq')
    · exact hs.rcv q hq'
  case al =>
    intro hk' h13
    have hnq : (rest ++ (runP s.connectOk s.connected (usedEffs a (effB a s.requestor alt b).1)).q).filter pduEv =
        rest.filter pduEv := by
      apply filter_pduEv_append_of_all
      intro z hz; rw [R.q17 z hz]; rfl
    rw [A.eventQ, hnq, A.recvPdu]
    rw [A.fsm] at h13
    have hn1' := hn1 hk'
    have hs13 : s.fsm ≠ 13 := by
      intro h; rcases T.from13 h s.requestor alt b with h' | h'
      · exact h13 h'
      · exact hn1' h'
    have hal := hs.al hk hs13
    rw [hq] at hal
    have hpp : popsPdu a = pduEv e :=
      ((T.pduNext hs13 s.requestor alt b).resolve_left h13).resolve_left hn1'
    rw [hpp]
    cases hpe : pduEv e <;> simp only [hpe, ↓reduceIte, List.filter, Bool.false_eq_true] at hal ⊢
    · exact hal
    · rw [List.map_tail, hal]; rfl
  case nr =>
    intro hk' h1
    rw [A.fsm] at h1
    exact absurd h1 (hn1 hk')
  case snt =>
    intro f hf
    rw [A.sent] at hf
    exact (List.mem_append.mp hf).elim (R.sends f) (hs.snt f)
  case k =>
    intro hk' pre post hq'
    rw [A.eventQ] at hq'
    rcases append_eq_split hq' with ⟨post1, h1, h2⟩ | ⟨pre2, _, h2⟩
    · have hne : rest ≠ [] := by rw [h1]; simp
      rcases hs.k hk (e :: pre) post1 (by rw [hq, h1]; rfl) with d | d | ⟨d1, d2⟩
      · left; rw [A.conn]; exact R.stayClosed (fun ha => hne (hrest (Or.inr ha))) d
      · exact absurd (hrest (Or.inl d)) hne
      · exact Or.inr (Or.inr ⟨by rw [A.inbox]; exact d1,
          h2 ▸ List.forall_mem_append.mpr ⟨d2, fun z h' => by rw [R.q17 z h']; rfl⟩⟩)
    · left
      rw [A.conn]
      apply R.qClosed
      intro hnil; rw [hnil] at h2; simp at h2

theorem core_iterB (x : St) (hinv : C05Inv.Inv x) (h : Core x) : Core (iterB x) := by
  rcases iterB_cases x with hi | hi | ⟨_, _, _, _, _, hi⟩ | ⟨e, rest, a, hq, hk, hph, hl, hi⟩
  · rw [hi]; exact h
  · rw [hi]; exact core_phaseB x false h
  · have hd := (C05Inv.iterB_inv x hinv).1
    rw [hi] at hd; cases hd
  · rw [hi]
    have hL : C05Inv.Live x := by
      rcases hinv.2 with h' | h'
      · rw [hk] at h'; cases h'
      · exact h'
    exact core_acted x _ h hL hph hk e rest a hq hl rfl

/-- **the single-reactor invariant is preserved by every admissible step**: the local user
synchronously admissible, no injected send failure, the peer delivering only what a reactor can send -/
theorem sinv_step (x : St) (st : Step) (hok : stepOkSync x st = true) (hnb : st ≠ .env .breakConn)
    (hpeer : ∀ w, st = .env (.peer w) → GoodWire w) (h : SInv x) : SInv (Dul.step x st) := by
  refine ⟨C05Inv.step_inv x st hok h.inv, ?_⟩
  cases st with
  | env e => exact core_env x e hok (fun he => hnb (by rw [he])) (fun w hw => hpeer w (by rw [hw])) h.core
  | a => exact core_iterA x h.core
  | b => exact core_iterB x h.inv h.core

theorem sinv_init (requestor : Bool) : SInv (if requestor then initRequestor else initAcceptor) :=
  ⟨C05Inv.inv_init requestor, core_init requestor⟩

/-- **what phase B does under the invariant**: nothing observable, or one completed table action -/
theorem iterB_acted (x : St) (hx : SInv x) : iterB x = x ∨ iterB x = { x with phaseB := false } ∨
    ∃ e rest a alt b, x.eventQ = e :: rest ∧ x.kill = false ∧ lookup Spec.Ps38.table e x.fsm = some a ∧
      Acted x (iterB x) e rest a alt b := by
  rcases iterB_cases x with hi | hi | ⟨_, _, _, _, _, hi⟩ | ⟨e, rest, a, hq, hk, _, hl, hi⟩
  · exact Or.inl hi
  · exact Or.inr (Or.inl hi)
  · have hd := (C05Inv.iterB_inv x hx.inv).1
    rw [hi] at hd; cases hd
  · obtain ⟨alt, b, A⟩ := acted_facts x _ hx.core hk e rest a hq hl rfl
    exact Or.inr (Or.inr ⟨e, rest, a, alt, b, hq, hk, hl, hi ▸ A⟩)

/-- the reactor has stopped or has left Sta1 (it will not connect again) -/
def Started (x : St) : Prop := x.kill = true ∨ x.fsm ≠ 1

theorem step_started (x : St) (st : Step) (hx : SInv x) (h : Started x) : Started (Dul.step x st) := by
  cases st with
  | env e => cases e <;> exact h
  | a =>
    show Started (iterA x)
    rw [iterA_eq]; exact h
  | b =>
    show Started (iterB x)
    rcases iterB_acted x hx with hi | hi | ⟨e, rest, a, alt, b, _, _, _, A⟩
    · rw [hi]; exact h
    · rw [hi]; exact h
    · by_cases h1 : (effB a x.requestor alt b).2 = 1
      · left; rw [A.kill, h1]; simp
      · right; rw [A.fsm]; exact h1

/-- **closed is stable**: once the socket object is closed (or the reactor has stopped), and the
reactor has left Sta1, no step reopens it or puts anything on the wire -/
theorem step_frozen (x : St) (st : Step) (hx : SInv x) (hc : Pair.closed x = true) (hst : Started x) :
    Pair.closed (Dul.step x st) = true ∧ (Dul.step x st).sent = x.sent := by
  cases st with
  | env e => cases e <;> exact ⟨hc, rfl⟩
  | a =>
    show Pair.closed (iterA x) = true ∧ (iterA x).sent = x.sent
    rcases iterA_cases x with hi | ⟨_, _, _, _, _, _, hs, _, hi⟩ <;> rw [hi]
    · exact ⟨hc, rfl⟩
    · refine ⟨?_, rfl⟩
      cases hs with
      | close => unfold Pair.closed; rfl
      | _ => exact hc
  | b =>
    show Pair.closed (iterB x) = true ∧ (iterB x).sent = x.sent
    rcases iterB_acted x hx with hi | hi | ⟨e, rest, a, alt, b, _, hk, hl, A⟩
    · rw [hi]; exact ⟨hc, rfl⟩
    · rw [hi]; exact ⟨hc, rfl⟩
    · have R := runP_table a x.requestor alt b x.connectOk x.connected
      have hconn : x.connected = false := by
        unfold Pair.closed at hc
        rw [hk] at hc
        simpa using hc
      -- a reactor that has left Sta1 does not dispatch AE-1 again
      have hne : a ≠ .AE_1 := by
        intro ha
        rcases hst with h | h
        · rw [hk] at h; cases h
        · exact h ((rowOk hl).ae1 ha).2
      refine ⟨?_, ?_⟩
      · unfold Pair.closed
        rw [A.conn, R.stayClosed hne hconn]; rfl
      · rw [A.sent, R.sent, hconn]
        split <;> simp

end PairL
end PynetVerif
