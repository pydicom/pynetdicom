import PynetVerif.Lemmas.PduRoundtrip
/-!
The witness of `C02_stable_neg_length_overflow`.  The received bytes `ovBytes info` are an
A-ASSOCIATE-RQ whose User Information item holds `59 00 00 00` (a User Identity AC sub-item WITHOUT its
2-byte server-response-length) and a SOP Class Extended Negotiation sub-item with application
information `info`; for 65524 bytes of `info` the item is exactly 65535 bytes long, and re-encoded its
user data needs 65537.

Only the length of `info` matters, so everything is stated for a variable `info`; `witnessOverflow`
puts 65524 bytes `07` in its place.  With the concrete 65 KB list in the statements every rewriting
step, and the kernel, would walk it.
-/
namespace PynetVerif.Pdu

theorem decSubs_first_bad {α : Type} (dec : UInt8 × Bytes → Except Err α) (t r h l : UInt8) (rest : Bytes)
    (hbad : ∃ e, dec (t, rest.take (be16 h l)) = .error e) :
    ∃ e, decSubs dec (t :: r :: h :: l :: rest) = .error e := by
  obtain ⟨e0, he0⟩ := hbad
  simp only [decSubs, split, List.length_cons, splitItems]
  by_cases hlt : rest.length < be16 h l
  · simp only [hlt, ↓reduceIte]; exact ⟨_, rfl⟩
  · simp only [hlt, ↓reduceIte]
    cases hs : splitItems (rest.length + 1 + 1 + 1) (rest.drop (be16 h l)) with
    | error e => exact ⟨e, rfl⟩
    | ok tl => exact ⟨e0, by simp only [mapE, he0]⟩

/-- A User Information item whose sub-items encode to 65537 bytes is written with the wrapped item
length 65537 mod 65536 = 1; the decoder then takes one byte as the user data, and one byte is no
sub-item. -/
theorem decode_encode_userInfo_wrapped (ver : Nat) (c g : Bytes) (us : List UserSub)
    (hc : aeRqOk c = true) (hg : aeRqOk g = true) (hlen : (us.flatMap encUser).length = 65537) :
    ∃ e, decode (encode (.rq ver c g [.userInfo us])) = .error e := by
  obtain ⟨s1, s2, s3⟩ := encAssoc_slices 1 ver c g [.userInfo us] (aeRqOk_length hc) (aeRqOk_length hg)
  obtain ⟨x, body, hitems⟩ : ∃ x body, [VarItem.userInfo us].flatMap encVar = 0x50 :: 0 :: 0 :: 1 :: x :: body := by
    have : ∀ data : Bytes, data.length = 65537 → ∃ x body, tlv 0x50 0 data ++ [] = 0x50 :: 0 :: 0 :: 1 :: x :: body
      | x :: body, h => ⟨x, body, by simp only [tlv, h, List.append_nil]; rfl⟩
    exact this _ hlen
  have hb : be16 0 1 = 1 := rfl
  obtain ⟨e, he⟩ := decSubs_first_bad decVar 0x50 0 0 1 (x :: body) ⟨.struct, by rw [hb, decVar_50]; rfl⟩
  refine ⟨e, ?_⟩
  rw [show encode (.rq ver c g [.userInfo us]) = encAssoc 1 ver c g [.userInfo us] from rfl, decode_type1 rfl,
    encAssoc_slice6, s1, s2, s3, decAeRq_ljust hc, decAeRq_ljust hg, hitems]
  simp only [decVarItems, he]

/-- bytes 2..74 of the A-ASSOCIATE-RQ: reserved, PDU length 65607 = 68 + 4 + 65535, version 1, titles "A", "B" -/
def ovHead : Bytes :=
  [0, 0, 1, 0, 71, 0, 1, 0, 0] ++ (0x41 :: List.replicate 15 0x20) ++ (0x42 :: List.replicate 15 0x20) ++
    List.replicate 32 0

def ovBytes (info : Bytes) : Bytes :=
  1 :: (ovHead ++ tlv 0x50 0 (tlv 0x59 0 [] ++ tlv 0x56 0 (u16 1 ++ [0x31] ++ info)))
def ovPdu (info : Bytes) : PDU := .rq 1 [0x41] [0x42] [.userInfo [.userIdAc [], .sopExt [0x31] info]]

theorem accept_ovBytes (info : Bytes) (h : info.length = 65524) : accept (ovBytes info) = .ok (ovPdu info) := by
  have hl : (u16 1 ++ [0x31] ++ info).length < 65536 := by
    simp only [List.length_append, u16_length, List.length_cons, List.length_nil, h]; decide
  have hu : (tlv 0x59 0 [] ++ tlv 0x56 0 (u16 1 ++ [0x31] ++ info)).length < 65536 := by
    simp only [List.length_append, tlv_length, u16_length, List.length_cons, List.length_nil, h]; decide
  have hsub : decSubs decUser (tlv 0x59 0 [] ++ tlv 0x56 0 (u16 1 ++ [0x31] ++ info)) =
      .ok [.userIdAc [], .sopExt [0x31] info] := by
    -- the second sub-item is the encoding of `.sopExt "1" info`
    have h56 : decUser (0x56, u16 1 ++ [0x31] ++ info) = .ok (.sopExt [0x31] info) :=
      decUser_encUser (s := .sopExt [0x31] info) (show uidOk true [0x31] = true by decide) (userFits_iff.mpr (by
        simp only [encUser, tlv_length, List.length_append, u16_length, List.length_cons, List.length_nil, h]
        decide))
    rw [← List.append_nil (tlv 0x56 _ _)]
    simp only [decSubs, split_tlv 0x59 0 [] _ (by decide), split_tlv 0x56 0 _ [] hl, split_nil, mapE,
      decUser_59, h56, List.drop_nil]
  have hitems : decVarItems (tlv 0x50 0 (tlv 0x59 0 [] ++ tlv 0x56 0 (u16 1 ++ [0x31] ++ info))) =
      .ok [.userInfo [.userIdAc [], .sopExt [0x31] info]] := by
    rw [← List.append_nil (tlv 0x50 _ _)]
    rw [decVarItems, decSubs, split_tlv 0x50 0 _ [] hu, split_nil]
    simp only [mapE, decVar_50, decUserInfo, hsub]
  have hdec : decode (ovBytes info) = .ok (ovPdu info) := by
    have s74 : (ovBytes info).drop 74 = tlv 0x50 0 (tlv 0x59 0 [] ++ tlv 0x56 0 (u16 1 ++ [0x31] ++ info)) :=
      List.drop_left' (l₁ := 1 :: ovHead) (by decide)
    have s10 : slice (ovBytes info) 10 16 = 0x41 :: List.replicate 15 0x20 := rfl
    have s26 : slice (ovBytes info) 26 16 = 0x42 :: List.replicate 15 0x20 := rfl
    have a1 : decAeRq (0x41 :: List.replicate 15 0x20) = .ok [0x41] := by decide
    have a2 : decAeRq (0x42 :: List.replicate 15 0x20) = .ok [0x42] := by decide
    have s6 : slice (ovBytes info) 6 2 = [0, 1] := rfl
    rw [decode_type1 rfl, s6, s10, s26, a1, a2, s74, hitems]
    rfl
  simp only [accept, hdec]
  rfl

theorem ovPdu_userData_length (info : Bytes) (h : info.length = 65524) :
    ([UserSub.userIdAc [], UserSub.sopExt [0x31] info].flatMap encUser).length = 65537 := by
  simp only [List.flatMap_cons, List.flatMap_nil, List.append_nil, encUser, tlv_length, List.length_append,
    u16_length, List.length_cons, List.length_nil, h]

theorem ovPdu_not_normal (info : Bytes) (h : info.length = 65524) : normal (ovPdu info) = false := by
  have h16 : lt16 65537 = false := by decide
  simp only [normal, ovPdu, List.all_cons, List.all_nil, varN, ovPdu_userData_length info h, h16, Bool.and_false,
    Bool.false_and]

theorem ovPdu_reencode_fails (info : Bytes) (h : info.length = 65524) :
    ∃ e, decode (encode (ovPdu info)) = .error e :=
  decode_encode_userInfo_wrapped 1 [0x41] [0x42] _ (by decide) (by decide) (ovPdu_userData_length info h)

def witnessOverflow : Bytes := ovBytes (List.replicate 65524 7)

end PynetVerif.Pdu
