import PynetVerif.Lemmas.Nego
import PynetVerif.Lemmas.NegoTable
/-!
Case characterisation of the loop bodies of M-Nego (`AccStep`, `UnrStep`, `ReqStep`): every way
each can return, what a step determines (the role item it assigned, the roles of an accepted
context), and when the acceptor's body returns at all.
-/
namespace PynetVerif.Nego

def DistinctIds (rq : List Cx) : Prop := (rq.map (·.id)).Nodup
def HasTs (rq : List Cx) : Prop := ∀ p ∈ rq, p.ts ≠ []
instance (rq : List Cx) : Decidable (DistinctIds rq) := inferInstanceAs (Decidable (rq.map (·.id)).Nodup)
instance (rq : List Cx) : Decidable (HasTs rq) := inferInstanceAs (Decidable (∀ p ∈ rq, p.ts ≠ []))
/-- role pairs as role-selection items carry them: two booleans -/
def BoolRoles (roles : Roles) : Prop := ∀ kv ∈ roles, ∃ a b, kv.2 = (some a, some b)

/-- loop body of `negotiate_as_acceptor` for one proposal, whichever branch of the early returns is taken -/
def accOne (ac : List Cx) (roles : Roles) (p : Cx) : Except Err (AccCx × Option RoleItem) :=
  if ac.isEmpty then noAcOne p else negOne ac roles p

/-- the proposed role pair the acceptor works with (`(None, None)` if there is no item) -/
def rqRolesOf (roles : Roles) (a : Nat) : RolePair := (roles.lookup a).getD (none, none)

/-- All ways `accOne` can return. -/
inductive AccStep (ac : List Cx) (roles : Roles) (p : Cx) : AccCx → Option RoleItem → Prop
  | noAc (t : Nat) (rest : List Nat) : ac = [] → p.ts = t :: rest →
      AccStep ac roles p { id := p.id, abs := p.abs, result := 3, ts := t, asScu := none, asScp := none } none
  | absRej (t : Nat) (rest : List Nat) : ac ≠ [] → acLookup ac p.abs = none → p.ts = t :: rest →
      AccStep ac roles p { id := p.id, abs := p.abs, result := 3, ts := t, asScu := some false, asScp := some false } none
  | tsRej (c : Cx) (t : Nat) (rest : List Nat) : ac ≠ [] → acLookup ac p.abs = some c → firstCommon c.ts p.ts = none →
      p.ts = t :: rest →
      AccStep ac roles p { id := p.id, abs := p.abs, result := 4, ts := t, asScu := some false, asScp := some false } none
  | noneRole (c : Cx) (t : Nat) : ac ≠ [] → acLookup ac p.abs = some c → firstCommon c.ts p.ts = some t →
      (c.scu = none ∨ c.scp = none) →
      AccStep ac roles p { id := p.id, abs := p.abs, result := 0, ts := t, asScu := some false, asScp := some true } none
  | roleRej (c : Cx) (t : Nat) (cu cp : Bool) (o : Bool × Bool × Bool × Bool) : ac ≠ [] → acLookup ac p.abs = some c →
      firstCommon c.ts p.ts = some t → c.scu = some cu → c.scp = some cp →
      tableLookup (rqRolesOf roles p.abs) (some cu, some cp) = .ok o → o.2.2.1 = false → o.2.2.2 = false →
      AccStep ac roles p { id := p.id, abs := p.abs, result := 1, ts := t, asScu := some false, asScp := some false } none
  | accepted (c : Cx) (t : Nat) (cu cp : Bool) (o : Bool × Bool × Bool × Bool) : ac ≠ [] → acLookup ac p.abs = some c →
      firstCommon c.ts p.ts = some t → c.scu = some cu → c.scp = some cp →
      tableLookup (rqRolesOf roles p.abs) (some cu, some cp) = .ok o → ¬ (o.2.2.1 = false ∧ o.2.2.2 = false) →
      AccStep ac roles p { id := p.id, abs := p.abs, result := 0, ts := t, asScu := some o.2.2.1, asScp := some o.2.2.2 }
        (if (roles.lookup p.abs).isSome then some (replyItem p.abs (rqRolesOf roles p.abs) cu cp) else none)

theorem rejected_ok {p : Cx} {n : Nat} {role : Option Bool} {r : AccCx} (h : rejected p n role = .ok r) :
    ∃ t rest, p.ts = t :: rest ∧ r = { id := p.id, abs := p.abs, result := n, ts := t, asScu := role, asScp := role } := by
  unfold rejected tsHead at h
  cases hts : p.ts with
  | nil => simp [hts] at h
  | cons t rest => simp [hts] at h; exact ⟨t, rest, rfl, h.symm⟩

theorem accOne_step {ac : List Cx} {roles : Roles} {p : Cx} {r : AccCx} {ro : Option RoleItem}
    (h : accOne ac roles p = .ok (r, ro)) : AccStep ac roles p r ro := by
  unfold accOne at h
  split at h
  next hac =>
    unfold noAcOne at h
    split at h
    · cases h
    next r' hr =>
      cases h
      obtain ⟨t, rest, hts, rfl⟩ := rejected_ok hr
      exact .noAc t rest (List.isEmpty_iff.mp hac) hts
  next hac =>
    have hac : ac ≠ [] := by simpa using hac
    unfold negOne at h
    split at h
    next hl =>
      split at h
      · cases h
      next r' hr =>
        cases h
        obtain ⟨t, rest, hts, rfl⟩ := rejected_ok hr
        exact .absRej t rest hac hl hts
    next c hl =>
      simp only at h
      split at h
      next hf =>
        split at h
        · cases h
        next r' hr =>
          cases h
          obtain ⟨t, rest, hts, rfl⟩ := rejected_ok hr
          exact .tsRej c t rest hac hl hf hts
      next t hf =>
        split at h
        next cu cp hcu hcp =>
          split at h
          · cases h
          next o ht =>
            split at h
            next hb => cases h; exact .roleRej c t cu cp o hac hl hf hcu hcp ht hb.1 hb.2
            next hb => cases h; exact .accepted c t cu cp o hac hl hf hcu hcp ht hb
        next hnone =>
          cases h
          refine .noneRole c t hac hl hf ?_
          cases hcu : c.scu <;> cases hcp : c.scp <;> simp_all

/-- All ways the storage-like loop body of `negotiate_unrestricted` can return. -/
inductive UnrStep (roles : Roles) (p : Cx) : AccCx → Option RoleItem → Prop
  | noRole (t : Nat) (rest : List Nat) : p.ts = t :: rest → roles.lookup p.abs = none →
      UnrStep roles p { id := p.id, abs := p.abs, result := 0, ts := t, asScu := some true, asScp := some true } none
  | withRole (t : Nat) (rest : List Nat) (rq : RolePair) (o : Bool × Bool × Bool × Bool) : p.ts = t :: rest →
      roles.lookup p.abs = some rq → tableLookup rq (some true, some true) = .ok o →
      UnrStep roles p { id := p.id, abs := p.abs, result := 0, ts := t, asScu := some o.2.2.1, asScp := some o.2.2.2 }
        (some { uid := p.abs, scu := rq.1 == some true, scp := rq.2 == some true })

theorem unrOne_step {roles : Roles} {p : Cx} {r : AccCx} {ro : Option RoleItem}
    (h : unrOne roles p = .ok (r, ro)) : UnrStep roles p r ro := by
  unfold unrOne tsHead at h
  cases hts : p.ts with
  | nil => simp [hts] at h
  | cons t rest =>
    simp only [hts] at h
    split at h
    next hl => cases h; exact .noRole t rest hts hl
    next rq hl =>
      split at h
      · cases h
      next o ht => cases h; exact .withRole t rest rq o hts hl ht

/-- All ways the loop body of `negotiate_as_requestor` can return (`roles`: the acceptor's answer). -/
inductive ReqStep (acs : List WireCx) (roles : Roles) (p : Cx) : ReqCx → Prop
  | missing (t : Nat) (rest : List Nat) : wireLookup acs p.id = none → p.ts = t :: rest →
      ReqStep acs roles p { id := p.id, abs := p.abs, result := 2, ts := [t], asScu := false, asScp := false }
  | byTable (a : WireCx) (x y : Bool) (o : Bool × Bool × Bool × Bool) : wireLookup acs p.id = some a → a.result = 0 →
      rqRolesOf roles p.abs = (some x, some y) → tableLookup (p.scu, p.scp) (some x, some y) = .ok o →
      ReqStep acs roles p { id := p.id, abs := p.abs, result := 0, ts := a.ts.take 1, asScu := o.1, asScp := o.2.1 }
  | default (a : WireCx) : wireLookup acs p.id = some a →
      ¬ (a.result = 0 ∧ (rqRolesOf roles p.abs).1.isSome ∧ (rqRolesOf roles p.abs).2.isSome) →
      ReqStep acs roles p { id := p.id, abs := p.abs, result := a.result, ts := a.ts.take 1, asScu := true, asScp := false }

theorem reqOne_step {acs : List WireCx} {roles : Roles} {p : Cx} {q : ReqCx}
    (h : reqOne acs roles p = .ok q) : ReqStep acs roles p q := by
  unfold reqOne tsHead at h
  split at h
  next a hl =>
    simp only at h
    split at h
    next hc =>
      split at h
      · cases h
      next o ht =>
        cases h
        obtain ⟨h0, hx, hy⟩ := hc
        obtain ⟨x, hx⟩ := Option.isSome_iff_exists.mp hx
        obtain ⟨y, hy⟩ := Option.isSome_iff_exists.mp hy
        rw [h0]
        exact .byTable a x y o hl h0 (Prod.ext hx hy) (by rw [← hx, ← hy]; exact ht)
    next hc => cases h; exact .default a hl hc
  next hl =>
    cases hts : p.ts with
    | nil => simp [hts] at h
    | cons t rest => simp only [hts] at h; cases h; exact .missing t rest hl hts

section
variable {ac : List Cx} {acs : List WireCx} {roles rr : Roles} {p p' : Cx} {r r' : AccCx} {q : ReqCx} {a : WireCx}
  {ro : Option RoleItem} {it : RoleItem}

theorem AccStep.id_abs (h : AccStep ac roles p r ro) : r.id = p.id ∧ r.abs = p.abs := by
  cases h <;> exact ⟨rfl, rfl⟩

theorem UnrStep.id_abs (h : UnrStep roles p r ro) : r.id = p.id ∧ r.abs = p.abs := by
  cases h <;> exact ⟨rfl, rfl⟩

theorem ReqStep.id_abs (h : ReqStep acs roles p q) : q.id = p.id ∧ q.abs = p.abs := by
  cases h <;> exact ⟨rfl, rfl⟩

/-- what a step of `negotiate_as_acceptor` that assigned the role item `it` consists of -/
structure Assigned (ac : List Cx) (roles : Roles) (p : Cx) (r : AccCx) (it : RoleItem)
    (c : Cx) (t : Nat) (cu cp : Bool) (o : Bool × Bool × Bool × Bool) : Prop where
  supported : acLookup ac p.abs = some c
  scu : c.scu = some cu
  scp : c.scp = some cp
  table : tableLookup (rqRolesOf roles p.abs) (some cu, some cp) = .ok o
  granted : ¬ (o.2.2.1 = false ∧ o.2.2.2 = false)
  proposed : (roles.lookup p.abs).isSome = true
  item : it = replyItem p.abs (rqRolesOf roles p.abs) cu cp
  result : r = { id := p.id, abs := p.abs, result := 0, ts := t, asScu := some o.2.2.1, asScp := some o.2.2.2 }

theorem AccStep.some_inv (h : AccStep ac roles p r ro) (hro : ro = some it) :
    ∃ c t cu cp o, Assigned ac roles p r it c t cu cp o := by
  cases h with
  | accepted c t cu cp o hac hl hf hcu hcp ht hb =>
    by_cases hr : (roles.lookup p.abs).isSome = true
    · simp only [hr, ↓reduceIte, Option.some.injEq] at hro
      exact ⟨c, t, cu, cp, o, hl, hcu, hcp, ht, hb, hr, hro.symm, rfl⟩
    · simp [hr] at hro
  | _ => cases hro

/-- the role item depends on the proposal only through its abstract syntax -/
theorem AccStep.item_det (h : AccStep ac roles p r ro) (h0 : r.result = 0) (h' : AccStep ac roles p' r' (some it))
    (habs : p'.abs = p.abs) :
    ro = some it := by
  obtain ⟨c, _, cu, cp, _, ha⟩ := h'.some_inv rfl
  have hl := habs ▸ ha.supported
  have hsome := habs ▸ ha.proposed
  rw [ha.item, habs]
  cases h with
  | noAc | absRej | tsRej | roleRej => simp at h0
  | noneRole c' _ _ hl' _ hnone =>
    cases hl.symm.trans hl'
    rcases hnone with h | h
    · cases ha.scu.symm.trans h
    · cases ha.scp.symm.trans h
  | accepted c' _ cu' cp' _ _ hl' _ hcu' hcp' =>
    cases hl.symm.trans hl'
    cases ha.scu.symm.trans hcu'
    cases ha.scp.symm.trans hcp'
    rw [if_pos hsome]

theorem UnrStep.item_det (h : UnrStep roles p r ro) (h' : UnrStep roles p' r' (some it)) (habs : p'.abs = p.abs) :
    ro = some it := by
  cases h' with
  | withRole _ _ v _ _ hl =>
    rw [habs] at hl ⊢
    cases h with
    | noRole _ _ _ hl' => cases hl.symm.trans hl'
    | withRole _ _ v' _ _ hl' => cases hl.symm.trans hl'; rfl

theorem AccStep.not_roleless (h : AccStep ac roles p r ro) (h0 : r.result = 0) :
    r.asScu = some true ∨ r.asScp = some true := by
  cases h with
  | noAc | absRej | tsRej | roleRej => simp at h0
  | noneRole => exact .inr rfl
  | accepted c t cu cp o _ _ _ _ _ _ hb => cases h1 : o.2.2.1 <;> cases h2 : o.2.2.2 <;> simp_all

/-- `hno`: when no role item reaches the requestor for an accepted context -/
theorem AccStep.default_roles (h : AccStep ac roles p r ro) (h0 : r.result = 0)
    (hno : ro = none ∨ roles.lookup p.abs = none ∨ ∀ c, acLookup ac p.abs = some c → c.scu = none ∨ c.scp = none) :
    r.asScu = some false ∧ r.asScp = some true := by
  cases h with
  | noAc | absRej | tsRej | roleRej => simp at h0
  | noneRole => exact ⟨rfl, rfl⟩
  | accepted c t cu cp o _ hl _ hcu hcp ht =>
    have hlk : roles.lookup p.abs = none := by
      rcases hno with h | h | h
      · cases hlk : roles.lookup p.abs <;> simp_all
      · exact h
      · rcases h c hl with h | h <;> simp_all
    rw [rqRolesOf, hlk, Option.getD_none, table_none cu cp] at ht
    cases ht
    exact ⟨rfl, rfl⟩

theorem ReqStep.found (h : ReqStep acs rr p q) (hl : wireLookup acs p.id = some a) :
    q.result = a.result ∧ q.ts = a.ts.take 1 := by
  cases h with
  | missing _ _ hn => cases hn.symm.trans hl
  | byTable a' _ _ _ hl' h0 => cases hl'.symm.trans hl; exact ⟨h0.symm, rfl⟩
  | default a' hl' => cases hl'.symm.trans hl; exact ⟨rfl, rfl⟩

theorem ReqStep.role_outcome (hs : ReqStep acs rr p q) (h0 : q.result = 0)
    (hl : rr.lookup p.abs = ro.map fun it => (some it.scu, some it.scp)) :
    match ro with
    | none => q.asScu = true ∧ q.asScp = false
    | some it => ∃ o, tableLookup (p.scu, p.scp) (some it.scu, some it.scp) = .ok o ∧ q.asScu = o.1 ∧ q.asScp = o.2.1 := by
  cases hs with
  | missing => simp at h0
  | byTable a x y o _ _ hroles ht =>
    cases ro with
    | none => simp [rqRolesOf, hl] at hroles
    | some it =>
      simp only [rqRolesOf, hl, Option.map_some, Option.getD_some, Prod.mk.injEq, Option.some.injEq] at hroles
      obtain ⟨rfl, rfl⟩ := hroles
      exact ⟨o, ht, rfl, rfl⟩
  | default a _ hn =>
    cases ro with
    | none => exact ⟨rfl, rfl⟩
    | some it => exact absurd ⟨h0, by simp [rqRolesOf, hl]⟩ hn

end

section
variable {ac : List Cx} {roles : Roles}

theorem lookup_bool (hb : BoolRoles roles) {a : Nat} {v : RolePair} (h : roles.lookup a = some v) :
    ∃ x y, v = (some x, some y) := hb (a, v) (lookup_mem h)

open Spec.Roles in
theorem table_rqRolesOf (hb : BoolRoles roles) (a : Nat) (cu cp : Bool) :
    ∃ oc, documented (toItem (rqRolesOf roles a)) (some cu, some cp) = some oc ∧
      tableLookup (rqRolesOf roles a) (some cu, some cp) = .ok (enc oc) := by
  unfold rqRolesOf
  cases hl : roles.lookup a with
  | none => exact ⟨.default, by cases cu <;> cases cp <;> rfl, table_none cu cp⟩
  | some v =>
    obtain ⟨x, y, rfl⟩ := lookup_bool hb hl
    exact table_bool x y cu cp

theorem noAcOne_total {p : Cx} (hts : p.ts ≠ []) : ∃ x, noAcOne p = .ok x := by
  obtain ⟨t, rest, hts'⟩ := List.exists_cons_of_ne_nil hts
  simp [noAcOne, rejected, tsHead, hts']

theorem unrOne_total (hb : BoolRoles roles) {p : Cx} (hts : p.ts ≠ []) : ∃ x, unrOne roles p = .ok x := by
  obtain ⟨t, rest, hts'⟩ := List.exists_cons_of_ne_nil hts
  unfold unrOne tsHead
  simp only [hts']
  split
  · exact ⟨_, rfl⟩
  next v hl =>
    obtain ⟨x, y, rfl⟩ := lookup_bool hb hl
    obtain ⟨oc, -, htab⟩ := table_bool x y true true
    simp [htab]

theorem negOne_total (hb : BoolRoles roles) {p : Cx} (hts : p.ts ≠ []) : ∃ x, negOne ac roles p = .ok x := by
  obtain ⟨t, rest, hts'⟩ := List.exists_cons_of_ne_nil hts
  unfold negOne
  split
  · simp [rejected, tsHead, hts']
  · simp only
    split
    · simp [rejected, tsHead, hts']
    · split
      · rename_i cu cp _ _
        obtain ⟨oc, -, ho⟩ := table_rqRolesOf hb p.abs cu cp
        rw [show (roles.lookup p.abs).getD (none, none) = rqRolesOf roles p.abs from rfl, ho]
        simp only
        split <;> exact ⟨_, rfl⟩
      · exact ⟨_, rfl⟩

end

end PynetVerif.Nego
