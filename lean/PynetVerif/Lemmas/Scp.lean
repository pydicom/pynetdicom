import PynetVerif.Model.Scp
import PynetVerif.Lemmas.Range
/-!
The response of M-Scp and its status: the `Out` algebra and the counters of a response; the status
codes C20 calls non-final and what the properties need of a status table (proved of the real
tables); `validate_status` field by field — what its copy loop leaves in each field
(`copyElems_field`), and from that the status, the message id and the data set.
-/
namespace PynetVerif.Scp

@[simp] theorem Out.append_rsps (a b : Out) : (a ++ b).rsps = a.rsps ++ b.rsps := rfl
@[simp] theorem Out.append_subops (a b : Out) : (a ++ b).subops = a.subops ++ b.subops := rfl
@[simp] theorem Out.append_crashed (a b : Out) : (a ++ b).crashed = (a.crashed || b.crashed) := rfl
@[simp] theorem Out.nil_rsps : Out.nil.rsps = [] := rfl
@[simp] theorem Out.nil_subops : Out.nil.subops = [] := rfl
@[simp] theorem Out.nil_crashed : Out.nil.crashed = false := rfl
@[simp] theorem Out.crash_rsps : Out.crash.rsps = [] := rfl
@[simp] theorem Out.crash_subops : Out.crash.subops = [] := rfl
@[simp] theorem Out.crash_crashed : Out.crash.crashed = true := rfl
@[simp] theorem send_rsps (cx : Nat) (r : Rsp) : (send cx r).rsps = [⟨cx, r⟩] := rfl
@[simp] theorem send_subops (cx : Nat) (r : Rsp) : (send cx r).subops = [] := rfl
@[simp] theorem send_crashed (cx : Nat) (r : Rsp) : (send cx r).crashed = false := rfl

@[simp] theorem Out.nil_append (o : Out) : Out.nil ++ o = o := by
  cases o; show Out.append _ _ = _; simp [Out.append, Out.nil]

/-- the three ways a value the loop body is run on unpacks into `(status, dataset)`: the
`(None, exc_info)` tuple of a raise, a pair, a Dataset of two elements -/
theorem unpack_some {exc : Int} {v : Option YieldVal} {s : StatusVal} {d : DsVal} {o : Outcome}
    (h : unpack exc v = some (s, d, o)) :
    (v = none ∧ s = .int exc ∧ d = .none ∧ o = .success) ∨ v = some (.pair s d o) ∨
    (∃ elems, v = some (.status (.ds elems)) ∧ s = .bad ∧ d = .junkTruthy ∧ o = .success) := by
  cases v with
  | none => cases h; exact .inl ⟨rfl, rfl, rfl, rfl⟩
  | some x =>
    cases x with
    | pair s' d' o' => cases h; exact .inr (.inl rfl)
    | status s' =>
      cases s' with
      | ds elems =>
        simp only [unpack, asPair] at h
        split at h
        · cases h; exact .inr (.inr ⟨elems, rfl, rfl, rfl, rfl⟩)
        · cases h
      | int c => cases h
      | bad => cases h
    | dest k => cases h
    | junk => cases h

def Ctr.sum (c : Ctr) : Nat := c.rem + c.fail + c.warn + c.comp

/-- the four counters of a response, when all are present -/
def Rsp.ctr? (r : Rsp) : Option Ctr :=
  match r.rem, r.fail, r.warn, r.comp with
  | some a, some b, some c, some d => some ⟨a, b, c, d⟩
  | _, _, _, _ => none

@[simp] theorem setCounters_ctr (r : Rsp) (c : Ctr) : (r.setCounters c).ctr? = some c := by
  cases c; simp [Rsp.setCounters, Rsp.ctr?]

@[simp] theorem setCounters_status (r : Rsp) (c : Ctr) : (r.setCounters c).status = r.status := rfl
@[simp] theorem setCounters_ident (r : Rsp) (c : Ctr) : (r.setCounters c).ident = r.ident := rfl
@[simp] theorem clearIdent_ctr (g : GmSt) : g.clearIdent.ctr = g.ctr := rfl
@[simp] theorem clearIdent_failed (g : GmSt) : g.clearIdent.failed = g.failed := rfl

open PynetVerif.Status (Category)

/-- What the theorems need of the status table of a retrieve service. -/
structure RetrieveTable (t : Table) : Prop where
  pending : ∀ c, tableCat t c = some Category.pending → c = 0xFF00 ∨ c = 0xFF01
  success : tableCat t 0 = some Category.success
  successOnly : ∀ c, tableCat t c = some Category.success → c = 0
  allFailed : tableCat t 0xA702 = some Category.failure
  warning : tableCat t 0xB000 = some Category.warning

theorem lookup_run {f : Nat × Nat × Nat → Bool} {t : Table} (hall : t.all f = true) {n v : Nat}
    (h : Status.lookup t n = some v) : ∃ lo hi, f (lo, hi, v) = true ∧ lo ≤ n ∧ n ≤ hi := by
  obtain ⟨⟨lo, hi, w⟩, hr, h1, h2, rfl⟩ := Status.lookup_some t n v h
  exact ⟨lo, hi, List.all_eq_true.mp hall _ hr, h1, h2⟩

theorem tableCat_some {t : Table} {c : Int} {cat : Category} (h : tableCat t c = some cat) :
    ∃ k v, c = Int.ofNat k ∧ Status.lookup t k = some v ∧ Category.ofCode v = cat := by
  cases c with
  | negSucc k => cases h
  | ofNat k =>
    simp only [tableCat, Option.map_eq_some_iff] at h
    obtain ⟨v, hv, hp⟩ := h
    exact ⟨k, v, rfl, hv, hp⟩

theorem ofCode_eq (v : Nat) (cat : Category) (h : Category.ofCode v = cat) (hc : cat ≠ Category.unknown) :
    v = cat.toNat := by
  unfold Category.ofCode at h
  split at h <;> first | (subst h; rfl) | (subst h; exact absurd rfl hc)

theorem code_within {t : Table} {cat : Category} (hcat : cat ≠ Category.unknown) {lo hi : Nat}
    (h : t.all (fun r => r.2.2 != cat.toNat || (Nat.ble lo r.1 && Nat.ble r.2.1 hi)) = true) {c : Int}
    (hc : tableCat t c = some cat) : (lo : Int) ≤ c ∧ c ≤ (hi : Int) := by
  obtain ⟨k, v, rfl, hv, hp⟩ := tableCat_some hc
  obtain ⟨a, b, hf, h1, h2⟩ := lookup_run h hv
  simp only [ofCode_eq v cat hp hcat, bne_self_eq_false, Bool.false_or, Bool.and_eq_true, Nat.ble_eq] at hf
  show (lo : Int) ≤ (k : Int) ∧ (k : Int) ≤ hi
  omega

/-- One hypothesis, so that the check of a named table is one evaluation: the kernel then looks
the name up once. -/
theorem retrieveTable_of_runs (t : Table)
    (h : t.all (fun r => r.2.2 != Category.pending.toNat || (Nat.ble 0xFF00 r.1 && Nat.ble r.2.1 0xFF01)) = true ∧
      t.all (fun r => r.2.2 != Category.success.toNat || (Nat.ble 0 r.1 && Nat.ble r.2.1 0)) = true ∧
      tableCat t 0 = some Category.success ∧ tableCat t 0xA702 = some Category.failure ∧
      tableCat t 0xB000 = some Category.warning) : RetrieveTable t where
  pending c hc := by have := code_within (by decide) h.1 hc; omega
  success := h.2.2.1
  successOnly c hc := by have := code_within (by decide) h.2.1 hc; omega
  allFailed := h.2.2.2.1
  warning := h.2.2.2.2

theorem retrieveTable_get : RetrieveTable (tableNamed "QR_GET_SERVICE_CLASS_STATUS") :=
  retrieveTable_of_runs _ (by decide +kernel)

theorem retrieveTable_move : RetrieveTable (tableNamed "QR_MOVE_SERVICE_CLASS_STATUS") :=
  retrieveTable_of_runs _ (by decide +kernel)

/-- the status codes `code_to_category` calls Pending -/
def pendingCode (c : Int) : Bool := c == 0xFF00 || c == 0xFF01

/-- Statuses allowed before the final response: Pending, and — for the Repository Query SOP
class only — the response-limit warning 0xB001 which pynetdicom's own SCU treats as non-final. -/
def nonFinalCode (repo : Bool) (c : Int) : Bool := pendingCode c || (repo && c == 0xB001)

/-- `Status.category` is the model C28 proves equal to the real `code_to_category`. -/
theorem pendingCode_iff_category (n : Nat) :
    pendingCode (Int.ofNat n) = true ↔ Status.category n = Category.pending := by
  -- both sides say that `n` is 0xFF00 or 0xFF01
  have hp : pendingCode (Int.ofNat n) = true ↔ n = 0xFF00 ∨ n = 0xFF01 := by
    simp only [pendingCode, Bool.or_eq_true, beq_iff_eq]
    show (n : Int) = 65280 ∨ (n : Int) = 65281 ↔ _
    omega
  rw [hp]
  constructor
  · rintro (rfl | rfl) <;> decide
  · intro h
    unfold Status.category at h
    cases hl : Status.lookup Status.runs n with
    | none => rw [hl] at h; cases h
    | some v =>
      rw [hl] at h
      cases ofCode_eq v _ h (by decide)
      obtain ⟨a, b, hf, h1, h2⟩ := lookup_run
        (f := fun r => r.2.2 != Category.pending.toNat || (Nat.ble 0xFF00 r.1 && Nat.ble r.2.1 0xFF01))
        (by decide) hl
      simp only [Category.toNat, bne_self_eq_false, Bool.false_or, Bool.and_eq_true, Nat.ble_eq] at hf
      omega

theorem nonFinalCode_false (c : Int) : nonFinalCode false c = pendingCode c := by simp [nonFinalCode]

theorem code_final (repo : Bool) (c : Int) (h1 : c ≠ 0xFF00) (h2 : c ≠ 0xFF01) (h3 : c ≠ 0xB001) :
    nonFinalCode repo c = false := by
  simp only [nonFinalCode, pendingCode, Bool.or_eq_false_iff, beq_eq_false_iff_ne, ne_eq]
  refine ⟨⟨h1, h2⟩, ?_⟩
  cases repo with
  | false => rfl
  | true => simp only [Bool.true_and, beq_eq_false_iff_ne, ne_eq]; exact h3

/-- what C20 needs of a status table: its Pending entries are exactly codes `code_to_category`
calls Pending, its other entries are not, and 0xB001 — where present — is a Warning -/
structure StdTable (t : Table) : Prop where
  pending : ∀ c, tableCat t c = some Category.pending → pendingCode c = true
  nonPending : ∀ c cat, tableCat t c = some cat → cat ≠ Category.pending → pendingCode c = false
  b001 : ∀ cat, tableCat t 0xB001 = some cat → cat = Category.warning

def stdTableB (t : Table) : Bool :=
  t.all (fun r => r.2.2 != Category.pending.toNat || (Nat.ble 0xFF00 r.1 && Nat.ble r.2.1 0xFF01)) &&
  t.all (fun r => r.2.2 == Category.pending.toNat || Nat.blt r.2.1 0xFF00 || Nat.blt 0xFF01 r.1) &&
  t.all (fun r => r.2.2 == Category.warning.toNat || Nat.blt r.2.1 0xB001 || Nat.blt 0xB001 r.1)

theorem stdTable_of_check (t : Table) (h : stdTableB t = true) : StdTable t := by
  simp only [stdTableB, Bool.and_eq_true] at h
  obtain ⟨⟨h1, h2⟩, h3⟩ := h
  refine ⟨fun c hc => ?_, fun c cat hc hne => ?_, fun cat hc => ?_⟩
  · have := code_within (cat := .pending) (by decide) h1 hc
    simp only [pendingCode, Bool.or_eq_true, beq_iff_eq]
    omega
  · obtain ⟨k, v, rfl, hv, hp⟩ := tableCat_some hc
    obtain ⟨a, b, hf, ha, hb⟩ := lookup_run h2 hv
    have hvp : (v == Category.pending.toNat) = false :=
      beq_eq_false_iff_ne.mpr fun e => hne (by rw [← hp, e]; rfl)
    simp only [hvp, Bool.false_or, Bool.or_eq_true, Nat.blt_eq] at hf
    simp only [pendingCode, Bool.or_eq_false_iff, beq_eq_false_iff_ne]
    show (k : Int) ≠ 65280 ∧ (k : Int) ≠ 65281
    omega
  · obtain ⟨k, v, hk, hv, hp⟩ := tableCat_some hc
    have hk' : k = 0xB001 := by have : (45057 : Int) = (k : Int) := hk; omega
    subst hk'
    obtain ⟨a, b, hf, ha, hb⟩ := lookup_run h3 hv
    simp only [Bool.or_eq_true, Nat.blt_eq, beq_iff_eq] at hf
    have : v = Category.warning.toNat := by
      rcases hf with (h | h) | h
      · exact h
      · omega
      · omega
    rw [← hp, this]; rfl

theorem stdTable_all : ∀ t ∈ Gen.Status.tables, StdTable t.2 := by
  intro t ht
  apply stdTable_of_check
  have h : Gen.Status.tables.all (fun t => stdTableB t.2) = true := by decide +kernel
  exact List.all_eq_true.mp h t ht

theorem stdTable_named (name : String) (h : (Gen.Status.tables.find? (fun t => t.1 == name)).isSome = true) :
    StdTable (tableNamed name) := by
  unfold tableNamed
  cases hf : Gen.Status.tables.find? (fun t => t.1 == name) with
  | none => rw [hf] at h; cases h
  | some t => exact stdTable_all t (List.mem_of_find?_eq_some hf)

theorem StdTable.final {t : Table} (ht : StdTable t) {repo : Bool} {c : Int}
    (hunk : tableCat t c = none → nonFinalCode repo c = false)
    (h1 : tableCat t c ≠ some Category.pending) (h2 : repo = true → tableCat t c ≠ some Category.warning) :
    nonFinalCode repo c = false := by
  cases hc : tableCat t c with
  | none => exact hunk hc
  | some cat =>
    simp only [nonFinalCode, Bool.or_eq_false_iff]
    refine ⟨ht.nonPending c cat hc fun e => h1 (e ▸ hc), ?_⟩
    cases repo with
    | false => rfl
    | true =>
      simp only [Bool.true_and, beq_eq_false_iff_ne, ne_eq]
      intro he
      subst he
      exact h2 rfl (congrArg some (ht.b001 cat hc) ▸ hc)

theorem StdTable.nonFinal_of_pending {t : Table} (ht : StdTable t) {repo : Bool} {c : Int}
    (hc : tableCat t c = some Category.pending) : nonFinalCode repo c = true := by
  simp [nonFinalCode, ht.pending c hc]

/-- what C20 needs of the table of a C-FIND service -/
structure FindTable (t : Table) : Prop extends StdTable t where
  success0 : tableCat t 0 = some Category.success
  exc : tableCat t 0xC311 = some Category.failure

theorem findTable_of (name : String)
    (h : (Gen.Status.tables.find? (fun t => t.1 == name)).isSome = true)
    (h0 : tableCat (tableNamed name) 0 = some Category.success)
    (h1 : tableCat (tableNamed name) 0xC311 = some Category.failure) : FindTable (tableNamed name) :=
  { toStdTable := stdTable_named name h, success0 := h0, exc := h1 }

/-- The three checks as one proposition: evaluated as a whole, the kernel looks the name up in
the list of tables once instead of three times. -/
theorem findTable_check (name : String)
    (h : (Gen.Status.tables.find? (fun t => t.1 == name)).isSome = true ∧
      tableCat (tableNamed name) 0 = some Category.success ∧
      tableCat (tableNamed name) 0xC311 = some Category.failure) : FindTable (tableNamed name) :=
  findTable_of name h.1 h.2.1 h.2.2

/-- the value of the last Status element of a status dataset -/
def lastStatus : List (Kw × Nat) → Option Nat
  | [] => none
  | e :: es =>
    match lastStatus es with
    | some v => some v
    | none => if e.1 == Kw.status then some e.2 else none

/-- the Status value `validate_status` leaves in the response -/
def statusCode : StatusVal → Int
  | .int c => c
  | .bad => 0xC002
  | .ds elems =>
    match lastStatus elems with
    | some v => v
    | none => 0xC001

/-- the status object carries no (0000,0120) MessageIDBeingRespondedTo element -/
def StatusVal.noMsgId : StatusVal → Bool
  | .ds elems => elems.all (fun e => e.1 != Kw.msgIdResp)
  | _ => true

/-- the value of field `k` of a response primitive -/
def Rsp.field (r : Rsp) : Kw → Option Int
  | .status => some r.status
  | .msgIdResp => some r.msgIdResp
  | .nRem => r.rem.map Int.ofNat
  | .nFail => r.fail.map Int.ofNat
  | .nWarn => r.warn.map Int.ofNat
  | .nComp => r.comp.map Int.ofNat
  | .errorComment => r.errorComment.map Int.ofNat
  | .offendingElement => r.offendingElement.map Int.ofNat
  | .errorID => r.errorID.map Int.ofNat
  | .affClass => r.affClass.map Int.ofNat
  | .affInst => r.affInst.map Int.ofNat
  | .other => none

/-- the value of the last element with keyword `k` -/
def lastVal (k : Kw) : List (Kw × Nat) → Option Nat
  | [] => none
  | e :: es =>
    match lastVal k es with
    | some v => some v
    | none => if e.1 == k then some e.2 else none

theorem copyElems_cons (p : Prim) (e : Kw × Nat) (es : List (Kw × Nat)) (r : Rsp) :
    copyElems p (e :: es) r = copyElems p es (if hasAttr p e.1 then r.setAttr e.1 e.2 else r) := by
  simp [copyElems]

theorem setAttr_field_same (r : Rsp) (k : Kw) (v : Nat) (hk : k ≠ .other) : (r.setAttr k v).field k = some (v : Int) := by
  cases k <;> first | rfl | exact absurd rfl hk

theorem setAttr_field_ne (r : Rsp) (k k' : Kw) (v : Nat) (h : k' ≠ k) : (r.setAttr k' v).field k = r.field k := by
  cases k' <;> cases k <;> first | rfl | exact absurd rfl h

theorem copyElems_field (p : Prim) (k : Kw) (hk : k ≠ .other) : ∀ (elems : List (Kw × Nat)) (r : Rsp),
    (copyElems p elems r).field k =
      match lastVal k elems with
      | some v => if hasAttr p k then some (v : Int) else r.field k
      | none => r.field k := by
  intro elems
  induction elems with
  | nil => intro r; rfl
  | cons e es ih =>
    intro r
    rw [copyElems_cons, ih]
    simp only [lastVal]
    cases hl : lastVal k es with
    | some v =>
      simp only
      by_cases ha : hasAttr p k = true
      · simp [ha]
      · simp only [ha, Bool.false_eq_true, if_false]
        by_cases he : e.1 = k
        · rw [he]; simp [ha]
        · split
          · exact setAttr_field_ne r k e.1 e.2 he
          · rfl
    | none =>
      simp only
      by_cases he : e.1 = k
      · have hb : (e.1 == k) = true := by simp [he]
        simp only [hb, if_true]
        rw [he]
        by_cases ha : hasAttr p k = true
        · simp only [ha, if_true]; exact setAttr_field_same r k e.2 hk
        · simp [ha]
      · have hb : (e.1 == k) = false := by simp [he]
        simp only [hb, Bool.false_eq_true, if_false]
        split
        · exact setAttr_field_ne r k e.1 e.2 he
        · rfl

theorem hasAttr_status (p : Prim) : hasAttr p Kw.status = true := by cases p <;> decide

theorem lastStatus_eq_lastVal : ∀ elems : List (Kw × Nat), lastStatus elems = lastVal Kw.status elems
  | [] => rfl
  | e :: es => by simp only [lastStatus, lastVal, lastStatus_eq_lastVal es]

theorem copyElems_status (p : Prim) (elems : List (Kw × Nat)) (r : Rsp) :
    (copyElems p elems r).status =
      match lastStatus elems with
      | some v => (v : Int)
      | none => r.status := by
  have h := copyElems_field p Kw.status (by decide) elems r
  rw [← lastStatus_eq_lastVal] at h
  simp only [Rsp.field, hasAttr_status, if_true] at h
  cases hl : lastStatus elems with
  | none => rw [hl] at h; exact Option.some.inj h
  | some v => rw [hl] at h; exact Option.some.inj h

theorem lastStatus_isSome : ∀ (elems : List (Kw × Nat)), (lastStatus elems).isSome = hasStatus elems := by
  intro elems
  induction elems with
  | nil => rfl
  | cons e es ih =>
    simp only [lastStatus, hasStatus, List.any_cons] at ih ⊢
    cases hl : lastStatus es with
    | some v =>
      rw [hl] at ih
      simp only [Option.isSome_some] at ih ⊢
      rw [← ih]; simp
    | none =>
      rw [hl] at ih
      simp only [Option.isSome_none] at ih
      rw [← ih]
      by_cases hk : (e.1 == Kw.status) = true <;> simp [hk]

theorem validateStatus_status (p : Prim) (s : StatusVal) (r : Rsp) :
    (validateStatus p s r).status = statusCode s := by
  cases s with
  | int c => rfl
  | bad => rfl
  | ds elems =>
    simp only [validateStatus, statusCode, ← lastStatus_isSome]
    cases hl : lastStatus elems with
    | none => rfl
    | some v => exact (copyElems_status p elems r).trans (by rw [hl])

theorem copyElems_preserves (p : Prim) {P : Rsp → Prop} : ∀ (elems : List (Kw × Nat)) (r : Rsp),
    (∀ e ∈ elems, ∀ r, P r → P (r.setAttr e.1 e.2)) → P r → P (copyElems p elems r)
  | [], _, _, h => h
  | e :: es, r, hstep, h => by
    rw [copyElems_cons]
    refine copyElems_preserves p es _ (fun e' he' => hstep e' (List.mem_cons_of_mem _ he')) ?_
    split
    · exact hstep e List.mem_cons_self r h
    · exact h

theorem setAttr_msgId_ne (r : Rsp) (k : Kw) (v : Nat) (h : k ≠ Kw.msgIdResp) :
    (r.setAttr k v).msgIdResp = r.msgIdResp := by
  cases k <;> first | rfl | exact absurd rfl h

theorem copyElems_msgId (p : Prim) (elems : List (Kw × Nat)) (r : Rsp)
    (h : elems.all (fun e => e.1 != Kw.msgIdResp) = true) : (copyElems p elems r).msgIdResp = r.msgIdResp :=
  copyElems_preserves p (P := fun r' => r'.msgIdResp = r.msgIdResp) elems r
    (fun e he r' hr' => (setAttr_msgId_ne r' e.1 e.2 (by simpa using List.all_eq_true.mp h e he)).trans hr') rfl

theorem validateStatus_msgId (p : Prim) (s : StatusVal) (r : Rsp) (h : s.noMsgId = true) :
    (validateStatus p s r).msgIdResp = r.msgIdResp := by
  cases s with
  | int c => rfl
  | bad => rfl
  | ds elems =>
    simp only [validateStatus]
    split
    · exact copyElems_msgId p elems r h
    · rfl

theorem setAttr_ident (r : Rsp) (k : Kw) (v : Nat) : (r.setAttr k v).ident = r.ident := by
  cases k <;> rfl

theorem copyElems_ident (p : Prim) (elems : List (Kw × Nat)) (r : Rsp) : (copyElems p elems r).ident = r.ident :=
  copyElems_preserves p (P := fun r' => r'.ident = r.ident) elems r
    (fun e _ r' hr' => (setAttr_ident r' e.1 e.2).trans hr') rfl

theorem validateStatus_ident (p : Prim) (s : StatusVal) (r : Rsp) : (validateStatus p s r).ident = r.ident := by
  cases s with
  | int c => rfl
  | bad => rfl
  | ds elems =>
    simp only [validateStatus]
    split
    · exact copyElems_ident p elems r
    · rfl

end PynetVerif.Scp
