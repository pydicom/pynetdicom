import PynetVerif.Model.Pair
/-!
What matters of an action's effect list, as definitions the reactor lemmas (`Lemmas/Dul`), the effect
projection (`Lemmas/PairAct`) and the finite abstraction of the product model (`Lemmas/PairAbs`) share.
-/
namespace PynetVerif
open Fsm

namespace Dul

/-- `Spec.Ps38.effects` with the event abstracted to the one bit it is inspected for (`e = 15`) -/
def effB (a : Action) (req alt b : Bool) : List Eff × Nat :=
  Spec.Ps38.effects a (if b then 15 else 0) req alt
/-- the effects `act` really applies (AA-4, AA-5, AR-5 do not `close()` the socket object) -/
def usedEffs (a : Action) (l : List Eff) : List Eff :=
  if a = .AA_4 || a = .AA_5 || a = .AR_5 then l.filter (· != .close) else l

end Dul

namespace PairL
open Dul

def hasClose (effs : List Eff) : Bool := effs.contains .close
def hasConnect (effs : List Eff) : Bool := effs.contains .connect
/-- the (at most one) PDU of an effect list -/
def sendEff (effs : List Eff) : Option Eff := (effs.filter isSend).head?

/-- the PDU event a send effect raises at the receiver -/
def tokOf (f : Eff) : Option Nat :=
  match wireOf f with
  | .pdu e _ => some e
  | _ => none

end PairL
end PynetVerif
