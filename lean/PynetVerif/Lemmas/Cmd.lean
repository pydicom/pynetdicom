import PynetVerif.Lemmas.CmdBytes
/-! The command-set codec (C17): element values, elements, data sets, each written and read back. -/
namespace PynetVerif.Cmd

/-- what a string value looks like after writing and reading (the strip rules of the reader) -/
def normStrs (vr : VR) (xs : List Bytes) : List Bytes :=
  if (joinBs xs).isEmpty then []
  else pyStrs (match vr with
    | .UI => (mapLast rstripPad xs).map stripSp
    | .AE => xs.map stripSp
    | _ => xs.map rstripPad)

def normVal : VR → EVal → EVal
  | vr, .strs xs => .strs (normStrs vr xs)
  | _, v => v

/-- the values the codec is defined on: numbers in range, strings without the delimiter -/
def ValOk : VR → EVal → Prop
  | .US, .nums xs => ∀ x ∈ xs, x < 65536
  | .UL, .nums xs => ∀ x ∈ xs, x < 4294967296
  | .AT, .nums xs => ∀ x ∈ xs, x < 4294967296
  | .UI, .strs xs => ∀ s ∈ xs, BS ∉ s
  | .AE, .strs xs => ∀ s ∈ xs, BS ∉ s
  | .LO, .strs xs => ∀ s ∈ xs, BS ∉ s
  | _, _ => False

theorem padEven_cases (pad : UInt8) (b : Bytes) : padEven pad b = b ∨ padEven pad b = b ++ [pad] := by
  unfold padEven; split
  · right; rfl
  · left; rfl

theorem padEven_length (pad : UInt8) (b : Bytes) : (padEven pad b).length ≤ b.length + 1 := by
  rcases padEven_cases pad b with h | h <;> rw [h] <;> simp

theorem padEven_isEmpty (pad : UInt8) (b : Bytes) : (padEven pad b).isEmpty = b.isEmpty := by
  cases b with
  | nil => rfl
  | cons c cs =>
    rcases padEven_cases pad (c :: cs) with h | h <;> rw [h] <;> rfl

theorem decode_strs_UI (l : List Bytes) (s : Bytes) (h : ∀ a ∈ l ++ [s], BS ∉ a) (P : Bytes)
    (hP : P = joinBs (l ++ [s]) ∨ P = joinBs (l ++ [s]) ++ [NUL]) :
    (splitBs (rstripPad P)).map stripSp = (mapLast rstripPad (l ++ [s])).map stripSp := by
  have e1 : rstripPad P = rstripPad (joinBs (l ++ [s])) := by
    rcases hP with e | e <;> rw [e]
    exact rstripBy_snoc isPad _ NUL rfl
  rw [e1, joinBs_concat, rstripPad, rstripBy_delimited isPad isPad_BS, mapLast_concat,
    splitBs_delimited l _ (fun a ha => h a (by simp [ha])) (not_BS_rstripBy _ _ (h s (by simp)))]

theorem decode_strs_pad (f : Bytes → Bytes) (hf : ∀ s, f (s ++ [SP]) = f s)
    (l : List Bytes) (s : Bytes) (h : ∀ a ∈ l ++ [s], BS ∉ a) (P : Bytes)
    (hP : P = joinBs (l ++ [s]) ∨ P = joinBs (l ++ [s]) ++ [SP]) :
    (splitBs P).map f = (l ++ [s]).map f := by
  have hl : ∀ a ∈ l, BS ∉ a := fun a ha => h a (by simp [ha])
  have hs : BS ∉ s := h s (by simp)
  rcases hP with e | e <;> rw [e, joinBs_concat]
  · rw [splitBs_delimited l s hl hs]
  · rw [List.append_assoc, splitBs_delimited l _ hl (by simp [hs]; decide)]
    simp [hf]

/-- a value written as nothing (no string, or the lone `''`) is read as the empty value; any other
is `l ++ [s]` -/
theorem decode_padded (pad : UInt8) (R : Bytes → List Bytes) (N : List Bytes) (xs : List Bytes)
    (key : ∀ l s, xs = l ++ [s] → R (padEven pad (joinBs xs)) = N) :
    (if (padEven pad (joinBs xs)).isEmpty then some (EVal.strs [])
      else some (.strs (pyStrs (R (padEven pad (joinBs xs)))))) =
      some (.strs (if (joinBs xs).isEmpty then [] else pyStrs N)) := by
  rw [padEven_isEmpty]
  cases hj : (joinBs xs).isEmpty with
  | true => rfl
  | false =>
    rcases xs.eq_nil_or_concat with rfl | ⟨l, s, rfl⟩
    · cases hj
    · rw [key l s List.concat_eq_append]; rfl

theorem decodeVal_US (b : Bytes) : decodeVal .US b = (dec16s b).map .nums := by cases b <;> rfl
theorem decodeVal_UL (b : Bytes) : decodeVal .UL b = (dec32s b).map .nums := by cases b <;> rfl
theorem decodeVal_AT (b : Bytes) : decodeVal .AT b = some (.nums (decATs b)) := by cases b <;> rfl

theorem decodeVal_encodeVal (vr : VR) (v : EVal) (h : ValOk vr v) :
    ∃ b, encodeVal vr v = some b ∧ decodeVal vr b = some (normVal vr v) := by
  cases v with
  | nums xs =>
    cases vr with
    | US =>
      refine ⟨_, (encNums_bounded 65536 le16 xs).trans (if_pos h), ?_⟩
      rw [decodeVal_US, decNums_flatMap dec16s le16 65536 rfl dec16s_le16 xs h]; rfl
    | UL =>
      refine ⟨_, (encNums_bounded 4294967296 le32 xs).trans (if_pos h), ?_⟩
      rw [decodeVal_UL, decNums_flatMap dec32s le32 4294967296 rfl dec32s_le32 xs h]; rfl
    | AT =>
      refine ⟨_, (encNums_bounded 4294967296 leTag xs).trans (if_pos h), ?_⟩
      rw [decodeVal_AT, Option.some.inj (decNums_flatMap (fun b => some (decATs b)) leTag 4294967296 rfl
        (fun x r hx => congrArg some (decATs_leTag x r hx)) xs h)]; rfl
    | UI | AE | LO => exact h.elim
  | strs xs =>
    cases vr with
    | US | UL | AT => exact h.elim
    | UI => exact ⟨_, rfl, decode_padded NUL (fun b => (splitBs (rstripPad b)).map stripSp) _ xs
        (fun l s e => by subst e; exact decode_strs_UI l s h _ (padEven_cases NUL _))⟩
    | AE => exact ⟨_, rfl, decode_padded SP (fun b => (splitBs b).map stripSp) _ xs
        (fun l s e => by subst e; exact decode_strs_pad stripSp stripSp_snoc l s h _ (padEven_cases SP _))⟩
    | LO => exact ⟨_, rfl, decode_padded SP (fun b => (splitBs b).map rstripPad) _ xs
        (fun l s e => by subst e; exact decode_strs_pad rstripPad (rstripBy_snoc isPad · SP rfl) l s h _ (padEven_cases SP _))⟩

/-- facts about a fixed table are checked entry by entry, by evaluation, and carried to whatever
a lookup finds -/
theorem lookup_forall {β : Type} (l : List (Nat × β)) (P : Nat → β → Prop) (h : ∀ e ∈ l, P e.1 e.2)
    {t : Nat} {v : β} (hl : l.lookup t = some v) : P t v := by
  exact h _ (lookup_mem hl)

theorem vrOf_lt (t : Nat) (vr : VR) (h : vrOf t = some vr) : t < 65536 :=
  lookup_forall vrTable (fun t _ => t < 65536) (by decide) h

def ElemOk (e : Elem) : Prop := ∃ vr, vrOf e.1 = some vr ∧ ValOk vr e.2

def normElem (e : Elem) : Elem :=
  match vrOf e.1 with
  | some vr => (e.1, normVal vr e.2)
  | none => e

theorem normElem_fst (e : Elem) : (normElem e).1 = e.1 := by
  unfold normElem; split <;> rfl

theorem normElem_of_vr (t : Nat) (vr : VR) (ev : EVal) (h : vrOf t = some vr) :
    normElem (t, ev) = (t, normVal vr ev) := by
  unfold normElem; simp only [h]

theorem encodeElem_shape (e : Elem) (b : Bytes) (h : encodeElem e = some b) :
    ∃ vr body, vrOf e.1 = some vr ∧ encodeVal vr e.2 = some body ∧ body.length < 4294967295 ∧
      b = leTag e.1 ++ le32 body.length ++ body := by
  unfold encodeElem at h
  split at h
  · cases h
  · next vr hv =>
    split at h
    · cases h
    · next body hb =>
      split at h
      · next hl => exact ⟨vr, body, hv, hb, hl, (Option.some.inj h).symm⟩
      · cases h

theorem decodeElems_tlv (n t : Nat) (vr : VR) (body rest : Bytes) (hv : vrOf t = some vr)
    (hl : body.length < 4294967295) :
    decodeElems (n + 1) (leTag t ++ le32 body.length ++ body ++ rest) =
      match decodeVal vr body, decodeElems n rest with
      | some v, some r => some ((t, v) :: r)
      | _, _ => none := by
  have htag := vrOf_lt t vr hv
  rw [decodeElems.eq_3 _ _ (by simp [leTag, le16])]
  simp only [List.append_assoc]
  rw [rdTag_leTag t (by omega)]
  simp only
  rw [rd32_le32 _ (by omega)]
  simp only
  rw [if_neg (by omega), if_neg (by simp), hv]
  simp only [List.take_left' rfl, List.drop_left' rfl]
  rfl

def normCmd (c : List Elem) : List Elem := c.map normElem

theorem encodeElems_cons_eq_some (e : Elem) (r : List Elem) (b : Bytes) (h : encodeElems (e :: r) = some b) :
    ∃ a br, encodeElem e = some a ∧ encodeElems r = some br ∧ b = a ++ br := by
  rw [encodeElems] at h
  split at h
  · next a br ha hbr => exact ⟨a, br, ha, hbr, (Option.some.inj h).symm⟩
  · cases h

theorem decodeElems_encodeElems (c : List Elem) : ∀ b, encodeElems c = some b → (∀ e ∈ c, ElemOk e) →
    ∀ n, c.length ≤ n → decodeElems n b = some (normCmd c) := by
  induction c with
  | nil =>
    intro b h _ n _
    cases h
    exact decodeElems.eq_1 n
  | cons e r ih =>
    intro b h hok n hn
    obtain ⟨a, br, he, hr, rfl⟩ := encodeElems_cons_eq_some e r b h
    obtain ⟨vr, body, hv, hb, hl, rfl⟩ := encodeElem_shape e a he
    obtain ⟨vr', hv', hval⟩ := hok e List.mem_cons_self
    cases hv.symm.trans hv'
    obtain ⟨b', hb', hdec⟩ := decodeVal_encodeVal vr e.2 hval
    cases hb.symm.trans hb'
    cases n with
    | zero => simp at hn
    | succ m =>
      rw [decodeElems_tlv m e.1 vr body br hv hl, hdec,
        ih br hr (fun x hx => hok x (List.mem_cons_of_mem _ hx)) m (by simp at hn; omega)]
      exact congrArg (fun x => some (x :: normCmd r)) (normElem_of_vr e.1 vr e.2 hv).symm

theorem encodeElems_length (c : List Elem) : ∀ b, encodeElems c = some b → c.length ≤ b.length := by
  induction c with
  | nil => intro b h; simp
  | cons e r ih =>
    intro b h
    obtain ⟨a, br, he, hr, rfl⟩ := encodeElems_cons_eq_some e r b h
    obtain ⟨_, _, _, _, _, rfl⟩ := encodeElem_shape e a he
    have := ih br hr
    simp only [List.length_append, List.length_cons, leTag_length]; omega

theorem encodeElems_bound (B : Nat) (c : List Elem)
    (h : ∀ e ∈ c, ∃ b, encodeElem e = some b ∧ b.length ≤ B) :
    ∃ bs, encodeElems c = some bs ∧ bs.length ≤ c.length * B := by
  induction c with
  | nil => exact ⟨[], rfl, by simp⟩
  | cons e r ih =>
    obtain ⟨a, ha, hla⟩ := h e List.mem_cons_self
    obtain ⟨br, hbr, hlr⟩ := ih (fun x hx => h x (List.mem_cons_of_mem _ hx))
    refine ⟨a ++ br, by simp only [encodeElems, ha, hbr], ?_⟩
    simp only [List.length_append, List.length_cons, Nat.add_mul, Nat.one_mul]; omega

def Sorted (c : Cmd) : Prop := c.Pairwise (fun a b => a.1 < b.1)

theorem Cmd.set_snoc (c : Cmd) (t : Nat) (v : EVal) (h : ∀ e ∈ c, e.1 < t) : c.set t v = c ++ [(t, v)] := by
  induction c with
  | nil => rfl
  | cons e r ih =>
    obtain ⟨t', v'⟩ := e
    have h1 : t' < t := h (t', v') List.mem_cons_self
    have h2 : ¬ t < t' := by omega
    have h3 : ¬ t = t' := by omega
    simp only [Cmd.set, h2, h3, if_false, List.cons_append]
    rw [ih (fun x hx => h x (List.mem_cons_of_mem _ hx))]

theorem foldl_set_sorted (rest acc : Cmd) (h : Sorted (acc ++ rest)) :
    rest.foldl (fun c e => c.set e.1 e.2) acc = acc ++ rest := by
  induction rest generalizing acc with
  | nil => simp
  | cons e r ih =>
    have hlt := (List.pairwise_append.mp h).2.2
    have : acc ++ [(e.1, e.2)] ++ r = acc ++ e :: r := by simp
    rw [List.foldl_cons, Cmd.set_snoc acc e.1 e.2 (fun x hx => hlt x hx e List.mem_cons_self),
      ih _ (this ▸ h), this]

theorem Cmd.ofList_sorted (c : Cmd) (h : Sorted c) : Cmd.ofList c = c := by
  unfold Cmd.ofList
  have := foldl_set_sorted c [] (by simpa using h)
  simpa using this

theorem Sorted.map_normElem (c : Cmd) (h : Sorted c) : Sorted (normCmd c) := by
  unfold Sorted normCmd
  rw [List.pairwise_map]
  simp only [normElem_fst]
  exact h

theorem decodeCmd_encodeCmd (c : Cmd) (hs : Sorted c) (hok : ∀ e ∈ c, ElemOk e) (b : Bytes)
    (hb : encodeCmd c = some b) : decodeCmd b = some (normCmd c) := by
  unfold decodeCmd
  rw [decodeElems_encodeElems c b hb hok b.length (encodeElems_length c b hb)]
  simp only [Option.map_some]
  rw [Cmd.ofList_sorted _ (Sorted.map_normElem c hs)]

theorem Cmd.get_cons (t t' : Nat) (v : EVal) (r : Cmd) :
    Cmd.get ((t', v) :: r) t = if t = t' then some v else Cmd.get r t := by
  unfold Cmd.get
  rw [List.lookup_cons]
  by_cases h : t = t'
  · subst h; simp
  · have : (t == t') = false := by simpa using h
    simp [this, h]

theorem Cmd.get_none_of_lt (c : Cmd) (t : Nat) (h : ∀ e ∈ c, t < e.1) : c.get t = none := by
  induction c with
  | nil => rfl
  | cons e r ih =>
    obtain ⟨t', v'⟩ := e
    have : t < t' := h (t', v') List.mem_cons_self
    rw [Cmd.get_cons, if_neg (by omega)]
    exact ih (fun x hx => h x (List.mem_cons_of_mem _ hx))

theorem Cmd.get_set (c : Cmd) (t : Nat) (v : EVal) (t' : Nat) :
    (c.set t v).get t' = if t' = t then some v else c.get t' := by
  induction c with
  | nil => exact Cmd.get_cons ..
  | cons e r ih =>
    obtain ⟨k, w⟩ := e
    rw [Cmd.set]
    by_cases h1 : t < k
    · rw [if_pos h1]; exact Cmd.get_cons ..
    rw [if_neg h1]
    by_cases h2 : t = k
    · subst h2
      rw [if_pos rfl, Cmd.get_cons, Cmd.get_cons]
      split <;> rfl
    · rw [if_neg h2, Cmd.get_cons, Cmd.get_cons, ih]
      by_cases h3 : t' = k
      · subst h3; rw [if_pos rfl, if_neg (fun e => h2 e.symm), if_pos rfl]
      · rw [if_neg h3, if_neg h3]

theorem Cmd.mem_set (c : Cmd) (t : Nat) (v : EVal) (e : Elem) (h : e ∈ c.set t v) : e = (t, v) ∨ e ∈ c := by
  induction c with
  | nil => exact Or.inl (List.mem_singleton.mp h)
  | cons x r ih =>
    obtain ⟨k, w⟩ := x
    rw [Cmd.set] at h
    split at h
    · exact List.mem_cons.mp h
    · split at h
      · exact (List.mem_cons.mp h).imp_right (List.mem_cons_of_mem _)
      · rcases List.mem_cons.mp h with h | h
        · exact Or.inr (h ▸ List.mem_cons_self)
        · exact (ih h).imp_right (List.mem_cons_of_mem _)

theorem Cmd.set_sorted (c : Cmd) (hs : Sorted c) (t : Nat) (v : EVal) : Sorted (c.set t v) := by
  induction c with
  | nil => exact List.pairwise_singleton _ _
  | cons x r ih =>
    obtain ⟨k, w⟩ := x
    obtain ⟨hk, hr⟩ := List.pairwise_cons.mp hs
    rw [Cmd.set]
    split
    · next h1 =>
      refine List.pairwise_cons.mpr ⟨fun a ha => ?_, hs⟩
      rcases List.mem_cons.mp ha with rfl | ha
      · exact h1
      · exact Nat.lt_trans h1 (hk a ha)
    · split
      · next h2 => subst h2; exact List.pairwise_cons.mpr ⟨hk, hr⟩
      · next h1 h2 =>
        refine List.pairwise_cons.mpr ⟨fun a ha => ?_, ih hr⟩
        rcases Cmd.mem_set r t v a ha with rfl | ha
        · show k < t; omega
        · exact hk a ha

theorem Cmd.set_length (c : Cmd) (t : Nat) (v : EVal) : (c.set t v).length ≤ c.length + 1 := by
  induction c with
  | nil => simp [Cmd.set]
  | cons x r ih =>
    obtain ⟨k, w⟩ := x
    simp only [Cmd.set]
    split
    · simp
    · split
      · simp
      · simp only [List.length_cons]; omega

theorem Cmd.get_del (c : Cmd) (t t' : Nat) : (c.del t).get t' = if t' = t then none else c.get t' := by
  induction c with
  | nil => simp [Cmd.del, Cmd.get]
  | cons x r ih =>
    obtain ⟨k, w⟩ := x
    unfold Cmd.del at ih ⊢
    rw [List.filter_cons]
    split
    · next hk =>
      have : k ≠ t := by simpa using hk
      rw [Cmd.get_cons, Cmd.get_cons, ih]
      by_cases h : t' = k
      · subst h; rw [if_pos rfl, if_neg (by omega), if_pos rfl]
      · rw [if_neg h, if_neg h]
    · next hk =>
      have : k = t := by simpa using hk
      rw [ih, Cmd.get_cons]
      by_cases h : t' = t
      · rw [if_pos h, if_pos h]
      · rw [if_neg h, if_neg h, if_neg (by omega)]

theorem Cmd.del_sorted (c : Cmd) (hs : Sorted c) (t : Nat) : Sorted (c.del t) :=
  List.Pairwise.filter _ hs

theorem Cmd.del_of_ne (c : Cmd) (t : Nat) (h : ∀ e ∈ c, e.1 ≠ t) : c.del t = c := by
  unfold Cmd.del
  rw [List.filter_eq_self]
  intro e he
  simpa using h e he

theorem Cmd.set_zero (c : Cmd) (v : EVal) (h : ∀ e ∈ c, e.1 ≠ 0) : c.set 0 v = (0, v) :: c := by
  cases c with
  | nil => rfl
  | cons x r =>
    obtain ⟨k, w⟩ := x
    have : k ≠ 0 := h (k, w) List.mem_cons_self
    have h1 : 0 < k := by omega
    simp only [Cmd.set, h1, if_true]

theorem Cmd.get_map_normElem (c : Cmd) (t : Nat) :
    Cmd.get (normCmd c) t = (c.get t).map (fun ev => (normElem (t, ev)).2) := by
  induction c with
  | nil => rfl
  | cons x r ih =>
    obtain ⟨k, w⟩ := x
    have e : normElem (k, w) = (k, (normElem (k, w)).2) := Prod.ext (normElem_fst (k, w)) rfl
    unfold normCmd at ih ⊢
    rw [List.map_cons, e, Cmd.get_cons, Cmd.get_cons, ih]
    split
    · next h => subst h; rfl
    · rfl

theorem Cmd.get_normCmd_nums (c : Cmd) (t : Nat) (xs : List Nat) (h : c.get t = some (.nums xs)) :
    Cmd.get (normCmd c) t = some (.nums xs) := by
  rw [Cmd.get_map_normElem, h]
  show some (normElem (t, .nums xs)).2 = _
  unfold normElem
  cases vrOf t <;> rfl

theorem Cmd.get_of_mem (c : Cmd) (hs : Sorted c) (t : Nat) (v : EVal) (h : (t, v) ∈ c) : c.get t = some v := by
  induction c with
  | nil => cases h
  | cons x r ih =>
    obtain ⟨k, w⟩ := x
    obtain ⟨hk, hr⟩ := List.pairwise_cons.mp hs
    rw [Cmd.get_cons]
    rcases List.mem_cons.mp h with e | h
    · cases e; exact if_pos rfl
    · have : k < t := hk (t, v) h
      rw [if_neg (by omega)]
      exact ih hr h

/-! ### clean element values: nothing for the reader to strip -/

def cleanStr : VR → Bytes → Prop
  | .UI, s => rstripPad s = s ∧ stripSp s = s
  | .AE, s => stripSp s = s
  | _, s => rstripPad s = s

/-- numbers in range; strings without delimiter, padding or removable spaces, and not the
lone empty string (which *is* the empty value) -/
def ValClean : VR → EVal → Prop
  | vr, .strs xs => ValOk vr (.strs xs) ∧ (∀ s ∈ xs, cleanStr vr s) ∧ xs ≠ [[]]
  | vr, .nums xs => ValOk vr (.nums xs)

theorem pyStrs_of_ne (xs : List Bytes) (h : xs ≠ [[]]) : pyStrs xs = xs := by
  unfold pyStrs
  split
  · exact absurd rfl h
  · rfl

theorem map_id_of (f : Bytes → Bytes) (xs : List Bytes) (h : ∀ s ∈ xs, f s = s) : xs.map f = xs :=
  (List.map_congr_left h).trans (List.map_id xs)

theorem normVal_clean (vr : VR) (v : EVal) (h : ValClean vr v) : normVal vr v = v := by
  cases v with
  | nums xs => rfl
  | strs xs =>
    obtain ⟨_, hc, hne⟩ := h
    show EVal.strs (normStrs vr xs) = EVal.strs xs
    congr 1
    unfold normStrs
    by_cases hj : (joinBs xs).isEmpty = true
    · rw [if_pos hj]
      have : joinBs xs = [] := by simpa using hj
      rcases joinBs_eq_nil xs this with e | e
      · exact e.symm
      · exact absurd e hne
    · rw [if_neg hj]
      have key : ∀ ys, ys = xs → pyStrs ys = xs := fun ys e => e ▸ pyStrs_of_ne xs hne
      cases vr
      case UI =>
        refine key _ ?_
        rw [mapLast_id _ _ (fun s hs => (hc s hs).1)]
        exact map_id_of _ _ (fun s hs => (hc s hs).2)
      all_goals exact key _ (map_id_of _ _ hc)

theorem ValClean.ok (vr : VR) (v : EVal) (h : ValClean vr v) : ValOk vr v := by
  cases v with
  | nums xs => exact h
  | strs xs => exact h.1

def ElemClean (e : Elem) : Prop := ∃ vr, vrOf e.1 = some vr ∧ ValClean vr e.2

theorem normCmd_clean (c : List Elem) (h : ∀ e ∈ c, ElemClean e) : normCmd c = c := by
  induction c with
  | nil => rfl
  | cons e r ih =>
    obtain ⟨vr, hv, hc⟩ := h e List.mem_cons_self
    unfold normCmd at ih ⊢
    rw [List.map_cons, ih (fun x hx => h x (List.mem_cons_of_mem _ hx))]
    obtain ⟨t, ev⟩ := e
    rw [normElem_of_vr t vr ev hv, normVal_clean vr ev hc]

/-- encoded values have even length (PS3.5 §7.1.1) -/
theorem encodeVal_even (vr : VR) (v : EVal) (b : Bytes) (h : encodeVal vr v = some b) : b.length % 2 = 0 := by
  have pe : ∀ pad x, (padEven pad x).length % 2 = 0 := by
    intro pad x; unfold padEven; split
    · simp only [List.length_append, List.length_singleton]; omega
    · omega
  unfold encodeVal at h
  split at h
  · have := encNums_length_US _ b h; omega
  · have := encNums_length _ 4 le32 le32_length _ b h; omega
  · have := encNums_length _ 4 leTag leTag_length _ b h; omega
  · cases h; exact pe _ _
  · cases h; exact pe _ _
  · cases h; exact pe _ _
  · cases h

end PynetVerif.Cmd
