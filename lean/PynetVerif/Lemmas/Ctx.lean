import PynetVerif.Model.Ctx
import PynetVerif.Lemmas.Lists
/-! Lemmas about `Model/Ctx.lean`: the accepted set as a dictionary, the candidate list, the
closed form of the loop of `_get_valid_context`, and the three ways `_c_store_scp` ends. -/
namespace PynetVerif.Ctx

theorem insertById_perm (x : Cx) (l : List Cx) : (insertById x l).Perm (x :: l) :=
  insert_perm (ins := insertById) (fun _ => rfl) (fun x y ys => by simp only [insertById]; split <;> simp) x l

theorem mem_sortById (a : Cx) (l : List Cx) : a ∈ sortById l ↔ a ∈ l :=
  (sort_insert_perm insertById_perm rfl (fun _ _ => rfl) l).mem_iff

theorem lookup_eq_find? (acc : List Cx) (k : Nat) : lookup acc k = acc.find? (·.id = k) := by
  induction acc with
  | nil => rfl
  | cons y ys ih => by_cases hy : y.id = k <;> simp [lookup, hy, ih]

theorem lookup_some {acc : List Cx} {k : Nat} {c : Cx} (h : lookup acc k = some c) :
    c ∈ acc ∧ c.id = k := by
  rw [lookup_eq_find?] at h
  exact ⟨List.mem_of_find?_eq_some h, by simpa using List.find?_some h⟩

theorem lookup_none_iff (acc : List Cx) (k : Nat) : lookup acc k = none ↔ k ∉ ids acc := by
  simp [lookup_eq_find?, ids]

theorem lookup_isSome_of_mem {acc : List Cx} {c : Cx} (h : c ∈ acc) : ∃ c', lookup acc c.id = some c' := by
  cases hl : lookup acc c.id with
  | some c' => exact ⟨c', rfl⟩
  | none => exact absurd (List.mem_map.mpr ⟨c, h, rfl⟩) ((lookup_none_iff acc c.id).mp hl)

theorem mem_base {acc : List Cx} {ctxId : Option Nat} {c : Cx} (h : c ∈ base acc ctxId) : c ∈ acc := by
  unfold base at h
  split at h
  · exact (mem_sortById c acc).mp h
  · split at h
    next c' hl => cases List.mem_singleton.mp h; exact (lookup_some hl).1
    next => exact (mem_sortById c acc).mp h

theorem base_none (acc : List Cx) : base acc none = sortById acc := rfl

/-- the abstract-syntax clause of the property: equal, or the UPS Push substitution -/
def AbOk (ab : Nat) (c : Cx) : Prop := c.ab = ab ∨ (ab = upsPush ∧ isUpsOther c.ab = true)

instance (ab : Nat) (c : Cx) : Decidable (AbOk ab c) := by unfold AbOk; exact inferInstance

theorem mem_candidates_iff {acc : List Cx} {ab : Nat} {role : Option Role} {ctxId : Option Nat} {c : Cx} :
    c ∈ candidates acc ab role ctxId ↔ roleOk role c = true ∧
      ((c ∈ base acc ctxId ∧ c.ab = ab) ∨
       (ab = upsPush ∧ (∀ b ∈ base acc ctxId, b.ab ≠ ab) ∧ c ∈ acc ∧ isUpsOther c.ab = true)) := by
  have hemp : ((base acc ctxId).filter (fun c => c.ab == ab)).isEmpty = true ↔
      ∀ b ∈ base acc ctxId, b.ab ≠ ab := by
    simp [List.filter_eq_nil_iff]
  simp only [candidates, List.mem_filter, and_comm (b := roleOk role c = true), Bool.and_eq_true,
    beq_iff_eq, hemp]
  refine and_congr_right fun _ => ?_
  split
  next h =>
    obtain ⟨rfl, h⟩ := h
    simp only [List.mem_append, List.mem_filter, beq_iff_eq, true_and]
    constructor
    · rintro (h1 | h1)
      · exact Or.inl h1
      · exact Or.inr ⟨h, h1⟩
    · rintro (h1 | h1)
      · exact Or.inl h1
      · exact Or.inr h1.2
  next h =>
    simp only [List.mem_filter, beq_iff_eq]
    constructor
    · exact Or.inl
    · rintro (h1 | ⟨h1, h2, _⟩)
      · exact h1
      · exact absurd ⟨h1, h2⟩ h

theorem mem_of_mem_candidates {acc : List Cx} {ab : Nat} {role : Option Role} {ctxId : Option Nat} {c : Cx}
    (h : c ∈ candidates acc ab role ctxId) : c ∈ acc := by
  rcases (mem_candidates_iff.mp h).2 with h | h
  · exact mem_base h.1
  · exact h.2.2.1

/-! After the test for equality, `verdict (some t) c` reads five Booleans (`known` and `compressed`
of both syntaxes, and whether the byte orders differ): the lemmas below decide that table. -/

theorem verdict_ret_iff {ts : Option Ts} {c : Cx} :
    verdict ts c = .ret ↔ ∃ t, ts = some t ∧ t.uid = c.ts.uid := by
  cases ts with
  | none => simp [verdict]
  | some t =>
    by_cases h : t.uid = c.ts.uid
    · simp [verdict, h]
    · simp only [verdict, h, if_false, Option.some.injEq, exists_eq_left', iff_false]
      generalize t.known = a, t.compressed = b, c.ts.known = d, c.ts.compressed = e,
        (t.little != c.ts.little) = f
      revert a b d e f
      decide

theorem verdict_keep_iff {ts : Option Ts} {c : Cx} :
    verdict ts c = .keep ↔ ts = none ∨ ∃ t, ts = some t ∧ t.uid ≠ c.ts.uid ∧ t.known = true ∧
      c.ts.known = true ∧ t.compressed = false ∧ c.ts.compressed = false ∧ t.little = c.ts.little := by
  cases ts with
  | none => simp [verdict]
  | some t =>
    by_cases h : t.uid = c.ts.uid
    · simp [verdict, h]
    · simp only [verdict, h, if_false, reduceCtorEq, Option.some.injEq, exists_eq_left', false_or,
        ne_eq, not_false_eq_true, true_and]
      generalize t.known = a, t.compressed = b, c.ts.known = d, c.ts.compressed = e,
        t.little = f, c.ts.little = g
      revert a b d e f g
      decide

theorem verdict_raise_iff {ts : Option Ts} {c : Cx} :
    verdict ts c = .raise ↔ ∃ t, ts = some t ∧ t.uid ≠ c.ts.uid ∧
      (t.known = false ∨ (t.compressed = false ∧ c.ts.known = false)) := by
  cases ts with
  | none => simp [verdict]
  | some t =>
    by_cases h : t.uid = c.ts.uid
    · simp [verdict, h]
    · simp only [verdict, h, if_false, Option.some.injEq, exists_eq_left', ne_eq, not_false_eq_true,
        true_and]
      generalize t.known = a, t.compressed = b, c.ts.known = d, c.ts.compressed = e,
        (t.little != c.ts.little) = f
      revert a b d e f
      decide

/-- the loop in one sentence: the first candidate on which it returns or raises decides; if there
is none, the kept candidates are the matches, in order -/
theorem scan_eq (ts : Option Ts) (l : List Cx) : scan ts l =
    match l.find? (fun c => verdict ts c = .ret ∨ verdict ts c = .raise) with
    | some c => if verdict ts c = .ret then .found c else .raised
    | none => .done (l.filter (verdict ts · = .keep)) := by
  induction l with
  | nil => rfl
  | cons x xs ih =>
    rw [scan, ih, List.find?_cons, List.filter_cons]
    cases hv : verdict ts x
    case keep =>
      cases List.find? _ xs with
      | none => simp
      | some c => by_cases hr : verdict ts c = .ret <;> simp [hr]
    all_goals simp [hv]

/-- the first kept candidate is what `matches[0]` is: nothing before it is kept -/
theorem scan_done_head {ts : Option Ts} : ∀ {l : List Cx} {m : Cx} {ms : List Cx},
    scan ts l = .done (m :: ms) →
    ∃ pre post, l = pre ++ m :: post ∧ ∀ c ∈ pre, verdict ts c = .skip := by
  intro l m ms h
  rw [scan_eq] at h
  split at h
  next => split at h <;> cases h
  next hf =>
    rw [List.find?_eq_none] at hf
    obtain ⟨pre, post, rfl, hpre, -⟩ := List.filter_eq_cons_iff.mp (ScanRes.done.inj h)
    refine ⟨pre, post, rfl, fun c hc => ?_⟩
    have h1 := hf c (List.mem_append_left _ hc)
    have h2 := hpre c hc
    clear hf hpre h
    cases hv : verdict ts c <;> simp [hv] at h1 h2 ⊢

theorem getValidContext_eq (acc : List Cx) (ab : Nat) (ts : Option Ts) (role : Option Role)
    (ctxId : Option Nat) (conv : Bool) :
    getValidContext acc ab ts role ctxId conv =
      match (candidates acc ab role ctxId).find? (fun c => verdict ts c = .ret ∨ verdict ts c = .raise) with
      | some c => if verdict ts c = .ret then some c else none
      | none => if conv then (candidates acc ab role ctxId).find? (verdict ts · = .keep) else none := by
  rw [getValidContext, scan_eq]
  cases List.find? _ (candidates acc ab role ctxId) with
  | none => simp
  | some c => by_cases hr : verdict ts c = .ret <;> simp [hr]

theorem getValidContext_some {acc : List Cx} {ab : Nat} {ts : Option Ts} {role : Option Role}
    {ctxId : Option Nat} {conv : Bool} {c : Cx} (h : getValidContext acc ab ts role ctxId conv = some c) :
    c ∈ candidates acc ab role ctxId ∧ (verdict ts c = .ret ∨ (conv = true ∧ verdict ts c = .keep)) := by
  rw [getValidContext_eq] at h
  split at h
  next c' hf =>
    split at h
    next hr => cases h; exact ⟨List.mem_of_find?_eq_some hf, Or.inl hr⟩
    next => cases h
  next =>
    split at h
    next hc => exact ⟨List.mem_of_find?_eq_some h, Or.inr ⟨hc, by simpa using List.find?_some h⟩⟩
    next => cases h

theorem getValidContext_of_noRaise {acc : List Cx} {ab : Nat} {ts : Option Ts} {role : Option Role}
    {ctxId : Option Nat} {conv : Bool} {c : Cx}
    (hn : ∀ c ∈ candidates acc ab role ctxId, verdict ts c ≠ .raise)
    (hc : c ∈ candidates acc ab role ctxId) :
    (verdict ts c = .ret → ∃ r, getValidContext acc ab ts role ctxId conv = some r ∧ verdict ts r = .ret) ∧
    (conv = true → verdict ts c = .keep → getValidContext acc ab ts role ctxId conv ≠ none) := by
  rw [getValidContext_eq]
  split
  next r hf =>
    have hr : verdict ts r = .ret := by
      have := List.find?_some hf
      have := hn r (List.mem_of_find?_eq_some hf)
      simp_all
    simp [hr]
  next hf =>
    rw [List.find?_eq_none] at hf
    refine ⟨fun h => absurd (hf c hc) (by simp [h]), fun hconv hk => ?_⟩
    simp only [hconv, if_true, ne_eq, List.find?_eq_none]
    exact fun h => h c hc (by simp [hk])

/-- the three ways `_c_store_scp` ends: abort on an unaccepted id (only with the test), refusal
on context 1, or the handler on the context found -/
theorem cStoreScp_cases (g : Bool) (acc : List Cx) (reqCtx ab : Nat) :
    (g = true ∧ reqCtx ∉ ids acc ∧ cStoreScp g acc reqCtx ab = ⟨none, none, false, true⟩) ∨
    (getValidContext acc ab none (some .scp) (some reqCtx) true = none ∧
      cStoreScp g acc reqCtx ab = ⟨none, some 1, true, false⟩) ∨
    (∃ c, getValidContext acc ab none (some .scp) (some reqCtx) true = some c ∧
      cStoreScp g acc reqCtx ab = ⟨some c, some c.id, false, false⟩) := by
  unfold cStoreScp
  split
  next h => simp only [Bool.and_eq_true, Bool.not_eq_true', List.contains_eq_mem, decide_eq_false_iff_not] at h
            exact Or.inl ⟨h.1, h.2, rfl⟩
  next =>
    cases h : getValidContext acc ab none (some .scp) (some reqCtx) true with
    | none => exact Or.inr (Or.inl ⟨rfl, rfl⟩)
    | some c => exact Or.inr (Or.inr ⟨c, rfl, rfl⟩)

end PynetVerif.Ctx
