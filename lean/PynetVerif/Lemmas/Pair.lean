import PynetVerif.Model.Pair
import PynetVerif.Lemmas.Dul
/-!
One reactor, as the product model (`Model/Pair.lean`) sees it: what any step of a reactor's own leaves of
what the wire and the other side see of it (`own_step`).  The two micro-steps are taken apart with
`Dul.iterA_cases` and `Dul.iterB_cases` (Lemmas/Dul.lean).
-/
namespace PynetVerif
open Dul Fsm

namespace PairL

theorem filter_pduEv_append_of_all (l ex : List Nat) (h : ∀ x ∈ ex, pduEv x = false) :
    (l ++ ex).filter pduEv = l.filter pduEv := by
  rw [List.filter_append]
  have : ex.filter pduEv = [] := by
    rw [List.filter_eq_nil_iff]; intro x hx; simp [h x hx]
  rw [this, List.append_nil]

theorem wireEvts_append (l1 l2 : List Wire) : wireEvts (l1 ++ l2) = wireEvts l1 ++ wireEvts l2 := by
  unfold wireEvts; exact List.filterMap_append

/-- the part of `lineEvts` that is not yet dispatched -/
def pending (s : St) : List Nat := s.eventQ.filter pduEv ++ wireEvts s.inbox

theorem lineEvts_eq (s : St) : lineEvts s = dispatchedPdus s ++ pending s := by
  unfold lineEvts readEvts pending; rw [List.append_assoc]

theorem lineEvts_congr {s t : St} (hl : t.log = s.log) (hp : pending t = pending s) : lineEvts t = lineEvts s := by
  rw [lineEvts_eq, lineEvts_eq, hp]; unfold dispatchedPdus; rw [hl]

theorem pending_peer (s : St) (w : Wire) : pending (env (.peer w) s) = pending s ++ wireEvts [w] := by
  unfold pending
  show _ ++ wireEvts (s.inbox ++ [w]) = _
  rw [wireEvts_append, List.append_assoc]
  rfl

theorem peer_lineEvts (s : St) (w : Wire) : lineEvts (env (.peer w) s) = lineEvts s ++ wireEvts [w] := by
  rw [lineEvts_eq, lineEvts_eq, pending_peer, List.append_assoc]
  rfl

theorem applyEff_sent (s : St) (f : Eff) :
    (applyEff s f).sent = if (isSend f && s.connected && !s.broken) = true then f :: s.sent else s.sent := by
  rw [applyEff_eq, Bool.and_assoc]

theorem foldl_applyEff_sent (effs : List Eff) : ∀ s : St,
    ∃ new, (effs.foldl applyEff s).sent = new ++ s.sent ∧ ∀ f ∈ new, f ∈ effs := by
  induction effs with
  | nil => intro s; exact ⟨[], rfl, fun _ h => nomatch h⟩
  | cons f fs ih =>
    intro s
    obtain ⟨new, hnew, hmem⟩ := ih (applyEff s f)
    simp only [List.foldl_cons]
    rw [hnew, applyEff_sent]
    split
    · exact ⟨new ++ [f], by simp, List.forall_mem_append.mpr
        ⟨fun g hg => List.mem_cons_of_mem _ (hmem g hg), by simp⟩⟩
    · exact ⟨new, rfl, fun g hg => List.mem_cons_of_mem _ (hmem g hg)⟩

/-- the effect lists an action can produce (`Spec.Ps38.effects` over all its parameters) contain `f` -/
def mayEmit (a : Action) (f : Eff) : Prop := ∃ req alt b, f ∈ (effB a req alt b).1

theorem act_sent (s : St) (a : Action) (e : Nat) :
    ∃ new, (act s a e).sent = new ++ s.sent ∧ ∀ f ∈ new, mayEmit a f := by
  obtain ⟨new, h1, h2⟩ := foldl_applyEff_sent (usedEffs a (effectsOf s a e).1) (popInputs s a)
  rw [show (popInputs s a).sent = s.sent by rw [popInputs_eq]] at h1
  rw [act_def]
  refine ⟨new, h1, fun f hf => ?_⟩
  obtain ⟨alt, b, hr, _⟩ := effectsOf_eq s a e
  have hin := h2 f hf
  rw [hr] at hin
  unfold usedEffs at hin
  split at hin
  · exact ⟨_, _, _, (List.mem_filter.mp hin).1⟩
  · exact ⟨_, _, _, hin⟩

/-- the log records the table's answers, and every PDU sent is an effect of a logged action -/
structure LogOk (s : St) : Prop where
  rows : ∀ d ∈ s.log, d.action = lookup Spec.Ps38.table d.evt d.state
  sent : ∀ f ∈ s.sent, ∃ d ∈ s.log, ∃ a, d.action = some a ∧ mayEmit a f

theorem logOk_of_eq {s t : St} (hl : t.log = s.log) (hs : t.sent = s.sent) (h : LogOk s) : LogOk t :=
  ⟨by rw [hl]; exact h.rows, by rw [hl, hs]; exact h.sent⟩

/-- phase A moves at most one PDU event from the inbox to the event queue; whatever else it queues is
no PDU event -/
theorem iterA_pending (s : St) : pending (iterA s) = pending s := by
  rcases iterA_cases s with h | ⟨pre, ex, i, r, c, hpre, hs, _, h⟩ <;> rw [h]
  show (s.eventQ ++ pre ++ ex).filter pduEv ++ wireEvts i = pending s
  have hpre' : (s.eventQ ++ pre).filter pduEv = s.eventQ.filter pduEv := by
    rcases hpre with rfl | rfl
    · rw [List.append_nil]
    · exact filter_pduEv_append_of_all _ [18] (by decide)
  unfold pending
  rw [List.filter_append, hpre']
  cases hs with
  | none => simp
  | prim p ps hp => simp [List.filter, show pduEv p.event = false by cases p <;> rfl]
  | pdu e alt rest hi => rw [hi]; cases hpe : pduEv e <;> simp [wireEvts, List.filter, hpe]
  | invalid rest hi => rw [hi]; simp [wireEvts, List.filter, pduEv]
  | eof rest hi => simp [List.filter, pduEv]
  | close h13 hc => simp [List.filter, pduEv]

/-- `t` is `s` after a step of its own (not a delivery), as the wire and the other side see it: the
inbox loses at most its head, never EOF -/
structure Own (s t : St) : Prop where
  line : lineEvts t = lineEvts s
  sent : ∃ new, t.sent = new ++ s.sent
  log : ∃ new, t.log = new ++ s.log
  logOk : LogOk s → LogOk t
  requestor : t.requestor = s.requestor
  inbox : t.inbox = s.inbox ∨ ∃ w, w ≠ .eof ∧ s.inbox = w :: t.inbox

/-- a dispatch moves the popped event from the queue to the log: the line is the same -/
theorem lineEvts_pop {s t : St} {e : Nat} {rest ex : List Nat} {d : Dispatch} (hq : s.eventQ = e :: rest)
    (hl : t.log = d :: s.log) (hd : d.evt = e) (hq' : t.eventQ = rest ++ ex) (hex : ∀ x ∈ ex, pduEv x = false)
    (hi : t.inbox = s.inbox) : lineEvts t = lineEvts s := by
  rw [lineEvts_eq, lineEvts_eq]
  unfold dispatchedPdus pending
  rw [hl, hq', hi, filter_pduEv_append_of_all _ _ hex, hq]
  simp only [List.reverse_cons, List.map_append, List.map_cons, List.map_nil, List.filter_append, hd,
    List.append_assoc]
  congr 1
  cases h : pduEv e <;> simp [List.filter, h]

theorem LogOk.cons {s t : St} {d : Dispatch} (h : LogOk s) (hl : t.log = d :: s.log)
    (hrow : d.action = lookup Spec.Ps38.table d.evt d.state)
    (hs : ∀ f ∈ t.sent, f ∈ s.sent ∨ ∃ a, d.action = some a ∧ mayEmit a f) : LogOk t := by
  refine ⟨fun d' hd' => ?_, fun f hf => ?_⟩
  · rw [hl] at hd'
    rcases List.mem_cons.mp hd' with h' | h'
    · rw [h']; exact hrow
    · exact h.rows d' h'
  · rw [hl]
    rcases hs f hf with h' | h'
    · obtain ⟨d', hd', r⟩ := h.sent f h'
      exact ⟨d', List.mem_cons_of_mem _ hd', r⟩
    · exact ⟨d, List.mem_cons_self .., h'⟩

theorem Own.same {s t : St} (hl : t.log = s.log) (hs : t.sent = s.sent) (hr : t.requestor = s.requestor)
    (hp : pending t = pending s) (hi : t.inbox = s.inbox ∨ ∃ w, w ≠ .eof ∧ s.inbox = w :: t.inbox) : Own s t :=
  ⟨lineEvts_congr hl hp, ⟨[], hs⟩, ⟨[], hl⟩, logOk_of_eq hl hs, hr, hi⟩

theorem own_step (s : St) (st : Step) (hal : Pair.allowed st = true) : Own s (Dul.step s st) := by
  cases st with
  | env e =>
    cases e with
    | peer w => cases hal
    | _ => exact .same rfl rfl rfl rfl (Or.inl rfl)
  | a =>
    show Own s (iterA s)
    refine .same (by rw [iterA_eq]) (by rw [iterA_eq]) (by rw [iterA_eq]) (iterA_pending s) ?_
    rcases iterA_cases s with h | ⟨pre, ex, i, r, c, _, hs, _, h⟩ <;> rw [h]
    · exact Or.inl rfl
    · cases hs with
      | pdu e alt rest hi => exact Or.inr ⟨_, by simp, hi⟩
      | invalid rest hi => exact Or.inr ⟨_, by simp, hi⟩
      | _ => exact Or.inl rfl
  | b =>
    show Own s (iterB s)
    rcases iterB_cases s with hi | hi | ⟨e, rest, hq, _, k, hi⟩ | ⟨e, rest, a, hq, hk, hph, hl, hi⟩ <;> rw [hi]
    · exact .same rfl rfl rfl rfl (Or.inl rfl)
    · exact .same rfl rfl rfl rfl (Or.inl rfl)
    · exact ⟨lineEvts_pop (ex := []) hq rfl rfl (List.append_nil _).symm (fun _ h => nomatch h) rfl, ⟨[], rfl⟩,
        ⟨[_], rfl⟩, fun h => h.cons rfl rfl fun f hf => Or.inl hf, rfl, Or.inl rfl⟩
    · obtain ⟨ex, hex, hex'⟩ := act_eventQ { s with eventQ := rest, phaseB := false } a e
      obtain ⟨new, hnew, hmem⟩ := act_sent { s with eventQ := rest, phaseB := false } a e
      rw [act_eq] at hex hnew ⊢
      refine ⟨lineEvts_pop hq rfl rfl hex ?_ rfl, ⟨new, hnew⟩, ⟨[_], rfl⟩,
        fun h => h.cons rfl hl.symm fun f hf => ?_, rfl, Or.inl rfl⟩
      · intro z hz; rcases hex' z hz with h | ⟨h, _⟩ <;> subst h <;> rfl
      · rw [show _ = new ++ s.sent from hnew] at hf
        exact (List.mem_append.mp hf).elim (fun h' => Or.inr ⟨a, rfl, hmem f h'⟩) Or.inl

end PairL
end PynetVerif
