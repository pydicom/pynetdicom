import PynetVerif.Lemmas.ScpLoop
/-!
The SCPs as wholes.  Each is described once, for every handler, by the few things it can come
to (`RetrieveCase` for `_get_scp/_move_scp`, `RpCase` for the Relevant Patient SCP, `SingleCase`
for the single-response services); what C20, C21 and C22 say of an SCP is read off its
description.
-/
namespace PynetVerif.Scp
open PynetVerif.Status (Category)

theorem Handler.quiet_itemsFrom {h : Handler} (hq : h.quiet = true) (k : Nat) :
    (h.itemsFrom k).all Item.quiet = true := by
  cases h with
  | gen items => exact all_drop _ items k hq
  | _ => rfl

theorem Handler.noMsgId_itemsFrom {h : Handler} (hn : h.noMsgId = true) (k : Nat) :
    (h.itemsFrom k).all Item.noMsgId = true := by
  cases h with
  | gen items => exact all_drop _ items k hn
  | _ => rfl

/-- What `_get_scp` and `_move_scp` come to, for any handler: nothing at all (the handler aborted
the association), one response that is not Pending, or the loop over the values left after the
`k` the SCP reads first, with the announced number of sub-operations. -/
inductive RetrieveCase (p : Prim) (exc : Int) (k : Nat) (t : Table) (cx m : Nat) (h : Handler)
    (announced : Option Nat) : Out → Prop
  | aborted : h.quiet = false → RetrieveCase p exc k t cx m h announced Out.nil
  | one (r : Rsp) : r.msgIdResp = m → pendingCode r.status = false →
      RetrieveCase p exc k t cx m h announced (send cx r)
  | loop (n : Nat) (st : St) : announced = some n → (h.quiet = true → st.up = true) →
      RetrieveCase p exc k t cx m h announced (retrieveOut p t cx n exc (h.itemsFrom k) st { msgIdResp := m })

theorem asCount_some {v : YieldVal} {c : Int} (h : asCount v = some c) : v = .status (.int c) := by
  unfold asCount at h
  split at h
  · cases h; rfl
  · cases h

theorem quiet_of_est {e : Ev} (h : (({} : St).apply e).est = false) : e.quiet = false := by
  cases hq : e.quiet with
  | false => rfl
  | true => rw [St.apply_quiet hq] at h; cases h

/-- the handler is no generator: `next` on what it returned raises, unless the handler aborted -/
theorem RetrieveCase.noGen {p : Prim} {exc : Int} {k : Nat} {t : Table} {cx m : Nat} {h : Handler}
    {a : Option Nat} (e : Ev) (c : Int) (he : h.quiet = e.quiet) (hc : pendingCode c = false) :
    RetrieveCase p exc k t cx m h a
      (if !(({} : St).apply e).est then Out.nil else send cx { msgIdResp := m, status := c }) := by
  split
  · next hn => exact .aborted (by rw [he]; exact quiet_of_est (by simpa using hn))
  · exact .one _ rfl hc

theorem getScp_case (t : Table) (cx m : Nat) (h : Handler) :
    RetrieveCase .get 0xC411 1 t cx m h (announcedGet h) (getScp t cx m h) := by
  cases h with
  | fnRaise te e => exact .one _ rfl rfl
  | fnNone e => exact .noGen e _ rfl rfl
  | fnJunk e => exact .noGen e _ rfl rfl
  | fnVal v e => exact .noGen e _ rfl rfl
  | gen items =>
    cases items with
    | nil => exact .one _ rfl rfl
    | cons it rest =>
      cases it with
      | ret e => exact .one _ rfl rfl
      | raise te e => exact .one _ rfl rfl
      | yield v e =>
        simp only [getScp]
        cases hv : asCount v with
        | none => exact .one _ rfl rfl
        | some c =>
          cases asCount_some hv
          simp only [getCounted]
          split
          · exact .one _ rfl rfl
          · split
            · exact .one _ rfl rfl
            · refine .loop c.toNat _ ?_ fun hq => ?_
              · simp only [announcedGet]
                rw [if_pos ⟨by omega, by omega⟩]
              · simp only [Handler.quiet, List.all_cons, Item.quiet, Bool.and_eq_true] at hq
                rw [St.apply_quiet hq.1]; rfl

theorem moveScp_case (t : Table) (cx m : Nat) (h : Handler) :
    RetrieveCase .move 0xC511 2 t cx m h (announcedMove h) (moveScp t cx m h) := by
  cases h with
  | fnRaise te e => exact .one _ rfl rfl
  | fnNone e => exact .noGen e _ rfl rfl
  | fnJunk e => exact .noGen e _ rfl rfl
  | fnVal v e => exact .noGen e _ rfl rfl
  | gen items =>
    cases items with
    | nil => exact .one _ rfl rfl
    | cons it rest =>
      cases it with
      | ret e => exact .one _ rfl rfl
      | raise te e => exact .one _ rfl rfl
      | yield v e =>
        simp only [moveScp]
        split
        · next hn =>
          refine .aborted ?_
          have := quiet_of_est (by simpa using hn)
          simp [Handler.quiet, Item.quiet, this]
        · split
          · exact .one _ rfl rfl
          · exact .one _ rfl rfl
          · next d _ =>
            cases rest with
            | nil => exact .one _ rfl rfl
            | cons it2 rest2 =>
              cases it2 with
              | ret e2 => exact .one _ rfl rfl
              | raise te2 e2 => exact .one _ rfl rfl
              | yield v2 e2 =>
                simp only [moveAfterDest]
                cases hv : asCount v2 with
                | none => exact .one _ rfl rfl
                | some c =>
                  cases asCount_some hv
                  simp only
                  -- quiet events leave the initial association flags alone
                  have hq : (Handler.gen (.yield v e :: .yield (.status (.int c)) e2 :: rest2)).quiet = true →
                      (({} : St).apply e).apply e2 = {} := by
                    intro hq
                    simp only [Handler.quiet, List.all_cons, Item.quiet, Bool.and_eq_true] at hq
                    rw [St.apply_quiet hq.1, St.apply_quiet hq.2.1]
                  split
                  · next hn =>
                    exact .aborted (not_quiet_of_down (up := ((({} : St).apply e).apply e2).est)
                      (fun hq' => by rw [hq hq']) (by simpa using hn))
                  · split
                    · exact .one _ rfl rfl
                    · split
                      · exact .one _ rfl rfl
                      · cases d with
                        | raises => exact .one _ rfl rfl
                        | refused => exact .one _ rfl rfl
                        | unknown => exact .one _ rfl rfl
                        | ok =>
                          refine .loop c.toNat _ ?_ fun hq' => by rw [hq hq']; rfl
                          simp only [announcedMove]
                          rw [if_pos ⟨by omega, by omega⟩]

namespace RetrieveCase
variable {p : Prim} {exc : Int} {k : Nat} {t : Table} {cx m : Nat} {h : Handler} {a : Option Nat} {out : Out}

theorem conforms (hc : RetrieveCase p exc k t cx m h a out) (ht : StdTable t) (hg : GoodRetrieveH t exc k h) :
    Conforms false h.quiet out := by
  cases hc with
  | aborted hq => exact conforms_nil_any hq
  | one r _ hr => exact conforms_send _ _ ((nonFinalCode_false _).trans hr)
  | loop n st _ hst =>
    exact gmLoop_conforms ht p cx n exc _ _ st _ hg fun hq => ⟨hst hq, Handler.quiet_itemsFrom hq k⟩

theorem sh (hc : RetrieveCase p exc k t cx m h a out) (ht : StdTable t) : Sh false out.rsps := by
  cases hc with
  | aborted _ => exact Sh_nil _
  | one r _ _ => exact Sh_single _ _
  | loop n st _ _ => exact gmLoop_Sh ht _ _ _ _ _ _ _

theorem idsOK (hc : RetrieveCase p exc k t cx m h a out) (hn : h.noMsgId = true) : IdsOK cx m out := by
  cases hc with
  | aborted _ => exact IdsOK_nil _ _
  | one r hr _ => exact IdsOK_send hr
  | loop n st _ _ =>
    exact gmLoop_idsOK _ _ _ _ _ _ _ _ _ rfl (stepVals_noMsgId _ (Handler.noMsgId_itemsFrom hn k))

end RetrieveCase

/-- What the Relevant Patient SCP sends for the handler's first result while the association is
established; `r` is `rsp` after `validate_status`, `cat` the table's category of its status. -/
inductive RpBodySpec (cx : Nat) (cat : Option Category) (d : DsVal) (r : Rsp) : Out → Prop
  | final : cat ≠ some Category.pending → RpBodySpec cx cat d r (send cx r)
  | pending : cat = some Category.pending → d.encodes = true →
      RpBodySpec cx cat d r (send cx { r with ident := Ident.data } ++ send cx { r with ident := Ident.data, status := 0 })
  | unencodable : cat = some Category.pending → d.encodes = false →
      RpBodySpec cx cat d r (send cx { r with status := 0xC312 })
  | silent : (cat = some Category.warning ∨ cat = some Category.unknown) → RpBodySpec cx cat d r Out.nil

theorem rpBody_spec (t : Table) (cx : Nat) {st : St} (he : st.est = true) (r : Rsp) (s : StatusVal) (d : DsVal) :
    RpBodySpec cx (tableCat t (statusCode s)) d (validateStatus .find s r) (rpBody t cx st r s d) := by
  unfold rpBody
  rw [he, validateStatus_status]
  simp only [Bool.not_true, Bool.false_eq_true, if_false]
  split
  · next hc => exact .final (by simp [hc])
  · next hc => exact .final (by simp [hc])
  · next hc => exact .final (by simp [hc])
  · next hc => exact .final (by simp [hc])
  · next hc =>
    split
    · next hd => exact .pending hc hd
    · next hd => exact .unencodable hc (by simpa using hd)
  · next hc => exact .silent (.inl hc)
  · next hc => exact .silent (.inr hc)

inductive RpCase (t : Table) (cx m : Nat) (h : Handler) : Out → Prop
  | aborted : h.quiet = false → RpCase t cx m h Out.nil
  | success : RpCase t cx m h (send cx { msgIdResp := m, status := 0 })
  | exc : RpCase t cx m h (send cx { msgIdResp := m, status := 0xC311 })
  | body (s d out) : (GoodRpH t h → GoodRpStatus t s) → (h.noMsgId = true → s.noMsgId = true) →
      RpBodySpec cx (tableCat t (statusCode s)) d (validateStatus .find s { msgIdResp := m }) out →
      RpCase t cx m h out

theorem rpScp_case (t : Table) (cx m : Nat) (h : Handler) : RpCase t cx m h (rpScp t cx m h) := by
  have succ : ∀ e : Ev, (h.quiet = true → e.quiet = true) →
      RpCase t cx m h (rpSuccess cx (({} : St).apply e) { msgIdResp := m }) := by
    intro e hq
    unfold rpSuccess
    split
    · next hn => exact .aborted (not_quiet_of_down hq (quiet_of_est (by simpa using hn)))
    · exact .success
  have body : ∀ (e : Ev) s d, (h.quiet = true → e.quiet = true) → (GoodRpH t h → GoodRpStatus t s) →
      (h.noMsgId = true → s.noMsgId = true) →
      RpCase t cx m h (rpBody t cx (({} : St).apply e) { msgIdResp := m } s d) := by
    intro e s d hq hg hn
    cases he : (({} : St).apply e).est with
    | false => rw [rpBody, he]; exact .aborted (not_quiet_of_down hq (quiet_of_est he))
    | true => exact .body s d _ hg hn (rpBody_spec t cx he _ s d)
  cases h with
  | fnRaise te e => cases te <;> first | exact .exc | exact succ e id
  | fnNone e => exact succ e id
  | fnJunk e => exact succ e id
  | fnVal v e => exact succ e id
  | gen items =>
    cases items with
    | nil => exact .success
    | cons it rest =>
      have hq : (Handler.gen (it :: rest)).quiet = true → it.quiet = true := fun hq => by
        simp only [Handler.quiet, List.all_cons, Bool.and_eq_true] at hq; exact hq.1
      cases it with
      | ret e => exact succ e hq
      | raise te e => cases te <;> first | exact .exc | exact succ e hq
      | yield v e =>
        cases v with
        | pair s d o =>
          exact body e s d hq id fun hn => by
            simp only [Handler.noMsgId, List.all_cons, Bool.and_eq_true] at hn; exact hn.1
        | status sv =>
          cases sv with
          | int c => exact succ e hq
          | bad => exact .exc
          | ds elems =>
            simp only [rpScp]
            split
            · next hl => exact body e .bad .junkTruthy hq (fun hg => hg (by simpa using hl)) fun _ => rfl
            · exact .exc
        | dest k => exact .exc
        | junk => exact succ e hq

namespace RpCase
variable {t : Table} {cx m : Nat} {h : Handler} {out : Out}

theorem conforms (hc : RpCase t cx m h out) (ht : StdTable t) (hg : GoodRpH t h) : Conforms false h.quiet out := by
  cases hc with
  | aborted hq => exact conforms_nil_any hq
  | success => exact conforms_send _ _ rfl
  | exc => exact conforms_send _ _ rfl
  | body s d out hgood _ hb =>
    obtain ⟨hw, hu, hn⟩ := hgood hg
    cases hb with
    | final hc =>
      refine conforms_send _ _ ?_
      rw [validateStatus_status]
      exact ht.final (fun h => (nonFinalCode_false _).trans (hn h)) hc nofun
    | pending hc _ =>
      refine conforms_cons ?_ (conforms_send _ _ rfl)
      rw [nonFinal]
      show nonFinalCode false (validateStatus .find s _).status = true
      rw [validateStatus_status]; exact ht.nonFinal_of_pending hc
    | unencodable => exact conforms_send _ _ rfl
    | silent hc => rcases hc with hc | hc <;> contradiction

theorem sh (hc : RpCase t cx m h out) (ht : StdTable t) : Sh false out.rsps := by
  cases hc with
  | aborted => exact Sh_nil _
  | success => exact Sh_single _ _
  | exc => exact Sh_single _ _
  | body s d out _ _ hb =>
    cases hb with
    | final => exact Sh_single _ _
    | unencodable => exact Sh_single _ _
    | silent => exact Sh_nil _
    | pending hc _ =>
      refine Sh_cons ?_ (Sh_single _ _)
      show nonFinalCode false (validateStatus .find s _).status = true
      rw [validateStatus_status]; exact ht.nonFinal_of_pending hc

theorem idsOK (hc : RpCase t cx m h out) (hn : h.noMsgId = true) : IdsOK cx m out := by
  cases hc with
  | aborted => exact IdsOK_nil _ _
  | success => exact IdsOK_send rfl
  | exc => exact IdsOK_send rfl
  | body s d out _ hs hb =>
    have hm : (validateStatus .find s { msgIdResp := m }).msgIdResp = m := validateStatus_msgId _ _ _ (hs hn)
    cases hb with
    | final => exact IdsOK_send hm
    | unencodable => exact IdsOK_send hm
    | silent => exact IdsOK_nil _ _
    | pending => exact IdsOK_append (IdsOK_send hm) (IdsOK_send hm)

end RpCase

/-- What `VerificationServiceClass.SCP`, `StorageServiceClass.SCP` and the `_n_*_scp` come to: the
answer `exc` to a handler that raised, nothing at all (the handler aborted the association), or
`body` of what the handler returned. -/
inductive SingleCase (cx m : Nat) (exc : Int) (h : Handler) (body : FnResult → Out) : Out → Prop
  | raised : h.call.1 = .raised → SingleCase cx m exc h body (send cx { msgIdResp := m, status := exc })
  | aborted : h.call.2.quiet = false → SingleCase cx m exc h body Out.nil
  | value : h.call.1 ≠ .raised → SingleCase cx m exc h body (body h.call.1)

namespace SingleCase
variable {cx m : Nat} {exc : Int} {h : Handler} {body : FnResult → Out} {out : Out}

theorem mem (hc : SingleCase cx m exc h body out) {s : Snap} (hs : s ∈ out.rsps) :
    (h.call.1 = .raised ∧ s = ⟨cx, { msgIdResp := m, status := exc }⟩) ∨
    (h.call.1 ≠ .raised ∧ s ∈ (body h.call.1).rsps) := by
  cases hc with
  | raised hr => exact .inl ⟨hr, List.mem_singleton.mp hs⟩
  | aborted _ => cases hs
  | value hne => exact .inr ⟨hne, hs⟩

theorem length_le (hc : SingleCase cx m exc h body out) (hb : (body h.call.1).rsps.length ≤ 1) :
    out.rsps.length ≤ 1 := by
  cases hc with
  | raised _ => exact length_send _ _
  | aborted _ => exact Nat.zero_le _
  | value _ => exact hb

theorem idsOK (hc : SingleCase cx m exc h body out) (hb : IdsOK cx m (body h.call.1)) : IdsOK cx m out := by
  cases hc with
  | raised _ => exact IdsOK_send rfl
  | aborted _ => exact IdsOK_nil _ _
  | value _ => exact hb

theorem conforms (hc : SingleCase cx m exc h body out) (hgen : ∀ items, h ≠ .gen items)
    (hexc : pendingCode exc = false) (hb : h.call.1 ≠ .raised → Conforms false h.quiet (body h.call.1)) :
    Conforms false h.quiet out := by
  cases hc with
  | raised _ => exact conforms_send _ _ ((nonFinalCode_false _).trans hexc)
  | aborted hq => exact conforms_nil_any (by rw [← call_quiet h hgen]; exact hq)
  | value hne => exact hb hne

end SingleCase

theorem statusOnlyScp_case (p : Prim) (exc : Int) (cx m : Nat) (h : Handler) :
    SingleCase cx m exc h (fun res => send cx (validateStatus p (asStatus res) { msgIdResp := m }))
      (statusOnlyScp p exc cx m h) := by
  unfold statusOnlyScp
  -- the model's `let (res, e) := h.call` in terms of the two projections
  rw [show h.call = (h.call.1, h.call.2) from rfl]
  simp only
  split
  · next hr => exact .raised hr
  · next hr =>
    split
    · next hn => exact .aborted (quiet_of_est (by simpa using hn))
    · exact .value hr

theorem statusOnlyScp_conforms (p : Prim) (exc : Int) (hexc : pendingCode exc = false) (cx m : Nat) (h : Handler)
    (hgen : ∀ items, h ≠ .gen items) (hg : GoodStatusH h) :
    Conforms false h.quiet (statusOnlyScp p exc cx m h) := by
  refine (statusOnlyScp_case p exc cx m h).conforms hgen hexc fun hne => conforms_send _ _ ?_
  rw [validateStatus_status]
  exact (nonFinalCode_false _).trans (hg.resolve_left hne)

/-- the response of `VerificationServiceClass.SCP` to the status object the handler returned: that
of `validate_status`, except that what is no valid status leaves 0x0000 -/
def echoRsp (m : Nat) : StatusVal → Rsp
  | .ds elems => if hasStatus elems then copyElems .echo elems { msgIdResp := m } else { msgIdResp := m }
  | .int c => { msgIdResp := m, status := c }
  | .bad => { msgIdResp := m }

theorem echoRsp_eq (m : Nat) (sv : StatusVal) :
    echoRsp m sv = validateStatus .echo sv { msgIdResp := m } ∨ echoRsp m sv = { msgIdResp := m } := by
  cases sv with
  | int c => exact .inl rfl
  | bad => exact .inr rfl
  | ds elems =>
    simp only [echoRsp, validateStatus]
    split
    · exact .inl rfl
    · exact .inr rfl

theorem echoScp_case (cx m : Nat) (h : Handler) :
    SingleCase cx m 0 h (fun res => send cx (echoRsp m (asStatus res))) (echoScp cx m h) := by
  unfold echoScp
  rw [show h.call = (h.call.1, h.call.2) from rfl]
  simp only
  split
  · next hr => exact .raised hr
  · next hr =>
    split
    · next hn => exact .aborted (quiet_of_est (by simpa using hn))
    · have key := SingleCase.value (cx := cx) (m := m) (exc := 0)
        (body := fun res => send cx (echoRsp m (asStatus res))) hr
      -- the SCP sends inside the branches of what `echoRsp` computes
      generalize asStatus h.call.1 = sv at key ⊢
      cases sv with
      | int c => exact key
      | bad => exact key
      | ds elems =>
        simp only [echoRsp] at key ⊢
        split <;> simp_all

theorem nFinish_spec (cx : Nat) (cat : Category) (r : Rsp) (d : DsVal) :
    ∃ x, nFinish cx cat r d = send cx x ∧ x.msgIdResp = r.msgIdResp ∧
      (x.status = r.status ∨ x.status = 0x0110) ∧
      x.status = if (cat = Category.success ∨ cat = Category.warning) ∧ d.truthy = true ∧ d.encodes = false
        then 0x0110 else r.status := by
  unfold nFinish
  by_cases h1 : (cat = Category.success ∨ cat = Category.warning) ∧ d.truthy = true
  · rw [if_pos (by simpa using h1)]
    cases h2 : d.encodes with
    | true => exact ⟨_, rfl, rfl, .inl rfl, by simp⟩
    | false => exact ⟨_, rfl, rfl, .inr rfl, by simp [h1]⟩
  · rw [if_neg (by simpa using h1)]
    exact ⟨_, rfl, rfl, .inl rfl, by rw [if_neg fun h => h1 ⟨h.1, h.2.1⟩]⟩

theorem nCreateStep_spec (p : Prim) (cat : Category) (inst : Bool) (r : Rsp) (d : DsVal) :
    nCreateStep p cat inst r d = some (r, d) ∨
    (¬ (p ≠ .nCreate ∨ inst = true) ∧ (nCreateStep p cat inst r d = none ∨
      ∃ a d', nCreateStep p cat inst r d = some ({ r with affInst := some a }, d'))) := by
  unfold nCreateStep
  split
  · next hc =>
    simp only [Bool.and_eq_true, beq_iff_eq, Bool.not_eq_true'] at hc
    refine .inr ⟨fun h => ?_, ?_⟩
    · rcases h with h | h
      · exact h hc.1.1
      · rw [hc.2] at h; cases h
    · split
      · exact .inr ⟨_, _, rfl⟩
      · exact .inl rfl
  · exact .inl rfl

theorem nKnown_spec (p : Prim) (cx : Nat) (cat : Category) (inst : Bool) (r : Rsp) (d : DsVal) :
    ∃ x, nKnown p cx cat inst r d = send cx x ∧ x.msgIdResp = r.msgIdResp ∧
      (x.status = r.status ∨ x.status = 0x0110) ∧
      ((p ≠ .nCreate ∨ inst = true) → x.status =
        if (cat = Category.success ∨ cat = Category.warning) ∧ d.truthy = true ∧ d.encodes = false
          then 0x0110 else r.status) := by
  unfold nKnown
  rcases nCreateStep_spec p cat inst r d with h | ⟨hp, h | ⟨a, d', h⟩⟩ <;> rw [h]
  · obtain ⟨x, hx, hm, hs, hs'⟩ := nFinish_spec cx cat r d
    exact ⟨x, hx, hm, hs, fun _ => hs'⟩
  · exact ⟨_, rfl, rfl, .inr rfl, fun h => absurd h hp⟩
  · -- the instance UID from the dataset changes neither the status nor the message id
    obtain ⟨x, hx, hm, hs, _⟩ := nFinish_spec cx cat { r with affInst := some a } d'
    exact ⟨x, hx, hm, hs, fun h => absurd h hp⟩

/-- What the N-* SCPs do with the value `res` the handler returned: the unpacking raises, or one
response with the status `validate_status` produced or 0x0110 — 0x0110 exactly for a dataset that
is due and does not encode, unless the N-CREATE instance UID has to come from that dataset. -/
inductive NBodySpec (p : Prim) (t : Table) (cx m : Nat) (inst : Bool) (res : FnResult) : Out → Prop
  | crash : fnPair res = none → NBodySpec p t cx m inst res Out.crash
  | sent (s d o x) : fnPair res = some (s, d, o) →
      x.msgIdResp = (validateStatus p s { msgIdResp := m }).msgIdResp →
      (x.status = statusCode s ∨ x.status = 0x0110) →
      ((p ≠ .nCreate ∨ inst = true) → x.status =
        if (tableCat t (statusCode s) = some Category.success ∨ tableCat t (statusCode s) = some Category.warning) ∧
            d.truthy = true ∧ d.encodes = false
          then 0x0110 else statusCode s) →
      NBodySpec p t cx m inst res (send cx x)

theorem nBody_spec (p : Prim) (t : Table) (cx m : Nat) (inst : Bool) (res : FnResult) :
    NBodySpec p t cx m inst res (nBody p t cx m inst res) := by
  unfold nBody
  split
  · next hp => exact .crash hp
  · next s d o hp =>
    have hst := validateStatus_status p s { msgIdResp := m }
    rw [hst]
    split
    · next hc =>
      refine .sent s d o _ hp rfl (.inl hst) fun _ => ?_
      rw [hst, if_neg]
      rintro ⟨h | h, _⟩ <;> (rw [hc] at h; cases h)
    · next cat hc =>
      obtain ⟨x, hx, hm, hs, hs'⟩ := nKnown_spec p cx cat inst (validateStatus p s { msgIdResp := m }) d
      rw [hx]
      refine .sent s d o x hp hm (hst ▸ hs) fun h => ?_
      rw [hs' h, hst]
      simp only [hc, Option.some.injEq]

theorem nScp_case (p : Prim) (t : Table) (cx m : Nat) (inst : Bool) (h : Handler) :
    SingleCase cx m 0x0110 h (nBody p t cx m inst) (nScp p t cx m inst h) := by
  unfold nScp
  split
  · next hr => exact .raised hr
  · next hr =>
    split
    · next hn => exact .aborted (quiet_of_est (by simpa using hn))
    · exact .value hr

end PynetVerif.Scp
