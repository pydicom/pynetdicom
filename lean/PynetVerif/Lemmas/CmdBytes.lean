import PynetVerif.Model.Cmd
import PynetVerif.Lemmas.Strip
import PynetVerif.Lemmas.Lists
/-!
The byte level of the command-set codec (C17): little-endian numbers and lists of them, the
strip functions, backslash join and split.
-/
namespace PynetVerif.Cmd

theorem word_val (n : Nat) :
    (UInt8.ofNat (n % 256)).toNat + 256 * (UInt8.ofNat (n / 256 % 256)).toNat = n % 65536 := by
  rw [UInt8.toNat_ofNat', UInt8.toNat_ofNat']; omega

/-- the doubled `% 65536` is what `word_val` leaves behind on the two halves that `le32` writes -/
theorem dword_val (n : Nat) (h : n < 4294967296) : n % 65536 % 65536 + 65536 * (n / 65536 % 65536 % 65536) = n := by
  omega

theorem rd16_le16 (n : Nat) (h : n < 65536) (r : Bytes) : rd16 (le16 n ++ r) = some (n, r) := by
  show some (_ + 256 * _, r) = _
  rw [word_val, Nat.mod_eq_of_lt h]

theorem rd32_le32 (n : Nat) (h : n < 4294967296) (r : Bytes) : rd32 (le32 n ++ r) = some (n, r) := by
  show some (_ + 256 * _ + 65536 * (_ + 256 * _), r) = _
  rw [word_val, word_val, dword_val n h]

theorem rdTag_leTag (t : Nat) (h : t < 4294967296) (r : Bytes) : rdTag (leTag t ++ r) = some (t, r) := by
  show some (65536 * (_ + 256 * _) + (_ + 256 * _), r) = _
  rw [word_val, word_val, Nat.add_comm, dword_val t h]

theorem le16_length (n : Nat) : (le16 n).length = 2 := rfl
theorem le32_length (n : Nat) : (le32 n).length = 4 := rfl
theorem leTag_length (n : Nat) : (leTag n).length = 4 := rfl

/-! `wUS`, `wUL`, `wAT` are `fun n => if n < B then some (f n) else none`, and each reader takes
one `f n` off the front: the round trip of a list is proved once, for any such pair. -/

theorem encNums_bounded (B : Nat) (f : Nat → Bytes) (xs : List Nat) :
    encNums (fun n => if n < B then some (f n) else none) xs =
      if ∀ x ∈ xs, x < B then some (xs.flatMap f) else none := by
  induction xs with
  | nil => rfl
  | cons x xs ih =>
    rw [encNums, ih]
    simp only [List.forall_mem_cons, List.flatMap_cons]
    by_cases hx : x < B
    · by_cases hxs : ∀ y ∈ xs, y < B
      · rw [if_pos hx, if_pos hxs, if_pos ⟨hx, hxs⟩]
      · rw [if_pos hx, if_neg hxs, if_neg (mt And.right hxs)]
    · rw [if_neg hx, if_neg (mt And.left hx)]

theorem length_flatMap_const (k : Nat) (f : Nat → Bytes) (hf : ∀ x, (f x).length = k) (xs : List Nat) :
    (xs.flatMap f).length = k * xs.length := by
  induction xs with
  | nil => rfl
  | cons x xs ih => rw [List.flatMap_cons, List.length_append, hf, ih, List.length_cons, Nat.mul_succ, Nat.add_comm]

theorem encNums_length (B k : Nat) (f : Nat → Bytes) (hf : ∀ x, (f x).length = k) (xs : List Nat) (b : Bytes)
    (h : encNums (fun n => if n < B then some (f n) else none) xs = some b) : b.length = k * xs.length := by
  rw [encNums_bounded] at h
  split at h
  · cases h; exact length_flatMap_const k f hf xs
  · cases h

theorem encNums_length_US (xs : List Nat) (b : Bytes) (h : encNums wUS xs = some b) : b.length = 2 * xs.length :=
  encNums_length 65536 2 le16 le16_length xs b h

theorem decNums_flatMap (d : Bytes → Option (List Nat)) (f : Nat → Bytes) (B : Nat) (hnil : d [] = some [])
    (hcons : ∀ x r, x < B → d (f x ++ r) = (d r).map (x :: ·)) (xs : List Nat) (h : ∀ x ∈ xs, x < B) :
    d (xs.flatMap f) = some xs := by
  induction xs with
  | nil => exact hnil
  | cons x xs ih =>
    rw [List.flatMap_cons, hcons x _ (h x List.mem_cons_self), ih (fun y hy => h y (List.mem_cons_of_mem _ hy))]
    rfl

theorem dec16s_le16 (n : Nat) (r : Bytes) (h : n < 65536) : dec16s (le16 n ++ r) = (dec16s r).map (n :: ·) := by
  show (dec16s r).map ((_ + 256 * _) :: ·) = _
  rw [word_val, Nat.mod_eq_of_lt h]

theorem dec32s_le32 (n : Nat) (r : Bytes) (h : n < 4294967296) : dec32s (le32 n ++ r) = (dec32s r).map (n :: ·) := by
  show (dec32s r).map ((_ + 256 * _ + 65536 * (_ + 256 * _)) :: ·) = _
  rw [word_val, word_val, dword_val n h]

theorem decATs_leTag (n : Nat) (r : Bytes) (h : n < 4294967296) : decATs (leTag n ++ r) = n :: decATs r := by
  show (65536 * (_ + 256 * _) + (_ + 256 * _)) :: decATs r = _
  rw [word_val, word_val, Nat.add_comm, dword_val n h]

/-- `rstripBy` and `stripSp` are the strips of `Model/Policy.lean`; `Lemmas/Strip.lean` holds their laws -/
theorem rstripBy_eq (p : UInt8 → Bool) (s : Bytes) : rstripBy p s = Policy.rstrip p s := by
  induction s with
  | nil => rfl
  | cons c cs ih => rw [rstripBy, ih, Policy.rstrip_cons]; cases Policy.rstrip p cs <;> rfl

theorem stripSp_eq (s : Bytes) : stripSp s = Policy.strip isSp s := rstripBy_eq _ _

theorem rstripBy_cons_of_not (p : UInt8 → Bool) (c : UInt8) (cs : Bytes) (h : p c = false) :
    rstripBy p (c :: cs) = c :: rstripBy p cs := by
  simp only [rstripBy]
  cases rstripBy p cs with
  | nil => simp [h]
  | cons a r => rfl

theorem rstripBy_append (p : UInt8 → Bool) (a b : Bytes) :
    rstripBy p (a ++ b) = if rstripBy p b = [] then rstripBy p a else a ++ rstripBy p b := by
  simp only [rstripBy_eq]; exact Policy.rstrip_append p a b

theorem rstripBy_snoc (p : UInt8 → Bool) (a : Bytes) (c : UInt8) (h : p c = true) :
    rstripBy p (a ++ [c]) = rstripBy p a := by
  simp only [rstripBy_eq]; exact Policy.rstrip_pad a [c] (by simp [h])

theorem rstripBy_prefix (p : UInt8 → Bool) (s : Bytes) : rstripBy p s <+: s :=
  rstripBy_eq p s ▸ Policy.rstrip_prefix p s

theorem stripSp_snoc (a : Bytes) : stripSp (a ++ [SP]) = stripSp a := by
  simp only [stripSp_eq]; exact Policy.strip_pad [] a [SP] rfl rfl

theorem stripSp_idem (s : Bytes) : stripSp (stripSp s) = stripSp s := by
  simp only [stripSp_eq, Policy.strip_idem]

def mapLast (f : Bytes → Bytes) : List Bytes → List Bytes
  | [] => []
  | [s] => [f s]
  | s :: t :: r => s :: mapLast f (t :: r)

theorem splitBs_eq_splitOn (s : Bytes) : splitBs s = s.splitOn BS :=
  eq_splitOn BS splitBs rfl (fun _ cs => by rw [splitBs]; cases splitBs cs <;> rfl) s

/-! A non-empty list of strings is `l ++ [s]`; joined, it is every string of `l` followed by the
delimiter, then `s`.  Padding and `rstrip` touch `s` alone. -/

def delimited (l : List Bytes) : Bytes := l.flatMap (· ++ [BS])

theorem joinBs_concat (l : List Bytes) (s : Bytes) : joinBs (l ++ [s]) = delimited l ++ s := by
  induction l with
  | nil => rfl
  | cons a l ih =>
    cases l with
    | nil => simp [joinBs, delimited]
    | cons b l' => simp only [List.cons_append, joinBs] at ih ⊢; rw [ih]; simp [delimited]

theorem mapLast_concat (f : Bytes → Bytes) (l : List Bytes) (s : Bytes) : mapLast f (l ++ [s]) = l ++ [f s] := by
  induction l with
  | nil => rfl
  | cons a l ih =>
    cases l with
    | nil => rfl
    | cons b l' => simp only [List.cons_append, mapLast] at ih ⊢; rw [ih]

theorem joinBs_eq_intercalate (l : List Bytes) : joinBs l = [BS].intercalate l := by
  induction l with
  | nil => rfl
  | cons a l ih =>
    cases l with
    | nil => exact List.intercalate_singleton.symm
    | cons b l' =>
      show a ++ BS :: joinBs (b :: l') = _
      rw [ih, List.intercalate_cons_cons, List.append_assoc]; rfl

theorem splitBs_joinBs (l : List Bytes) (hne : l ≠ []) (h : ∀ s ∈ l, BS ∉ s) : splitBs (joinBs l) = l := by
  rw [splitBs_eq_splitOn, joinBs_eq_intercalate, List.splitOn_intercalate BS h hne]

theorem splitBs_delimited (l : List Bytes) (s : Bytes) (hl : ∀ a ∈ l, BS ∉ a) (hs : BS ∉ s) :
    splitBs (delimited l ++ s) = l ++ [s] := by
  rw [← joinBs_concat, splitBs_joinBs _ (by simp) (by simpa [or_imp, forall_and] using ⟨hl, hs⟩)]

theorem rstripBy_delimited (p : UInt8 → Bool) (hp : p BS = false) (l : List Bytes) (s : Bytes) :
    rstripBy p (delimited l ++ s) = delimited l ++ rstripBy p s := by
  induction l with
  | nil => rfl
  | cons a l ih =>
    simp only [delimited, List.flatMap_cons, List.append_assoc, List.cons_append, List.nil_append] at ih ⊢
    rw [rstripBy_append, rstripBy_cons_of_not p BS _ hp, ih, if_neg (by simp)]

theorem not_BS_rstripBy (p : UInt8 → Bool) (s : Bytes) (h : BS ∉ s) : BS ∉ rstripBy p s :=
  fun hm => h ((rstripBy_prefix p s).subset hm)

theorem joinBs_eq_nil (l : List Bytes) (h : joinBs l = []) : l = [] ∨ l = [[]] := by
  cases l with
  | nil => left; rfl
  | cons s r =>
    cases r with
    | nil => right; simp only [joinBs] at h; rw [h]
    | cons t r' => simp [joinBs] at h

theorem isPad_BS : isPad BS = false := by decide
theorem isSp_BS : isSp BS = false := by decide

theorem mapLast_id (f : Bytes → Bytes) (l : List Bytes) (h : ∀ s ∈ l, f s = s) : mapLast f l = l := by
  rcases l.eq_nil_or_concat with rfl | ⟨l, s, rfl⟩
  · rfl
  · rw [List.concat_eq_append, mapLast_concat, h s (by simp)]

end PynetVerif.Cmd
