import PynetVerif.Lemmas.ScpPreds
/-!
The `for … in self._wrap_handler(generator)` loop that `_c_find_scp` and `_get_scp/_move_scp`
share, stated once (`loop`), with the one induction over it (`loop_induct`).  Then the two
loops: what one body does, and what C20 asks of the loop as a whole — conformity, nothing after
a final response, message ids.  Each body is described twice.  The case specs (`findStep_spec`,
`gmStep_spec`) list everything a body can do and are what the inductions over the loop use (the
C22 theorems go through `gmLoop_induct`).  The equations (`findStep_known`, `gmStep_known`,
`gmStep_unknown`) are for a body run with the association up, sub-operations remaining and the
category of the status at hand: the `C22_explicit_*` and the C21 step theorems.
-/
namespace PynetVerif.Scp
open PynetVerif.Status (Category)

/-- what follows one run of the loop body; `next` is the rest of the loop -/
def afterStep {σ : Type} (tail : St → σ → Out) (st : St) (next : σ → Out) : Step σ → Out
  | .stop o => o
  | .cont o s => o ++ next s
  | .brk s => tail st s

/-- `findLoop` and `gmLoop` with the loop body and the code after the loop as parameters -/
def loop {σ : Type} (step : Bool → Option YieldVal → σ → Step σ) (tail : St → σ → Out) :
    List Item → St → σ → Out
  | [], st, s => tail st s
  | .ret e :: _, st, s => tail (st.apply e) s
  | .raise _ e :: _, st, s =>
    afterStep tail (st.apply e) (tail (st.apply e)) (step (st.apply e).est none s)
  | .yield v e :: rest, st, s =>
    if (st.apply e).peer then tail (st.apply e) s else
    afterStep tail (st.apply e) (loop step tail rest (st.apply e)) (step (st.apply e).est (some v) s)

theorem findLoop_eq_loop (t : Table) (cx : Nat) (items : List Item) (st : St) (r : Rsp) :
    findLoop t cx items st r = loop (findStep t cx) (findTail cx) items st r := by
  induction items generalizing st r with
  | nil => rfl
  | cons it rest ih =>
    cases it with
    | ret e => rfl
    | raise te e =>
      simp only [findLoop, loop]
      -- the `match` of `findLoop` and `afterStep` agree once the body's result is a constructor
      cases findStep t cx (st.apply e).est none r <;> rfl
    | yield v e =>
      simp only [findLoop, loop, ih]
      cases findStep t cx (st.apply e).est (some v) r <;> rfl

theorem gmLoop_eq_loop (p : Prim) (t : Table) (cx n : Nat) (exc : Int) (items : List Item) (st : St) (g : GmSt) :
    gmLoop p t cx n exc items st g = loop (gmStep p t cx exc) (gmTail cx n) items st g := by
  induction items generalizing st g with
  | nil => rfl
  | cons it rest ih =>
    cases it with
    | ret e => rfl
    | raise te e =>
      simp only [gmLoop, loop]
      cases gmStep p t cx exc (st.apply e).est none g <;> rfl
    | yield v e =>
      simp only [gmLoop, loop, ih]
      cases gmStep p t cx exc (st.apply e).est (some v) g <;> rfl

/-- Induction over the loop.  `S` describes the body (`hS`), `Q` holds of every value the body
is run on, `P s out` says that the loop started in state `s` may produce `out`.  `q = true` is the
quiet-handler assumption — the association is up at the start and no association event happens
while the handler runs — under which every `est` the body and the tail see is `true`.  With
`q = false` nothing is assumed, and the last hypothesis is discharged by `nofun`. -/
theorem loop_induct {σ : Type} {step : Bool → Option YieldVal → σ → Step σ} (tail : St → σ → Out)
    {S : Bool → Option YieldVal → σ → Step σ → Prop} (hS : ∀ est v s, S est v s (step est v s))
    (q : Bool) (Q : Option YieldVal → Prop) (P : σ → Out → Prop)
    (hTail : ∀ st s, (q = true → st.est = true) → P s (tail st s))
    (hStop : ∀ est v s o, (q = true → est = true) → Q v → S est v s (.stop o) → P s o)
    (hCont : ∀ est v s o s' o', Q v → S est v s (.cont o s') → P s' o' → P s (o ++ o'))
    (hBrk : ∀ est v s s' o, S est v s (.brk s') → P s' o → P s o) :
    ∀ items, (∀ x ∈ stepVals items, Q x) → ∀ st s,
      (q = true → st.up = true ∧ items.all Item.quiet = true) → P s (loop step tail items st s) := by
  intro items
  induction items with
  | nil => intro _ st s hq; exact hTail st s fun h => St.up_est (hq h).1
  | cons it rest ih =>
    intro hQ st s hq
    -- a quiet head leaves the association flags alone
    have hst : ∀ e, Item.quiet it = e.quiet → q = true →
        st.apply e = st ∧ st.up = true ∧ rest.all Item.quiet = true := by
      intro e he h
      have h2 := (hq h).2
      simp only [List.all_cons, Bool.and_eq_true, he] at h2
      exact ⟨St.apply_quiet h2.1, (hq h).1, h2.2⟩
    have hest : ∀ e, Item.quiet it = e.quiet → q = true → (st.apply e).est = true := by
      intro e he h
      rw [(hst e he h).1]; exact St.up_est (hst e he h).2.1
    -- one run of the body on `v`, whatever comes next
    have after : ∀ e v (next : σ → Out), Item.quiet it = e.quiet → Q v → (∀ s', P s' (next s')) →
        P s (afterStep tail (st.apply e) next (step (st.apply e).est v s)) := by
      intro e v next he hv hnext
      have hs := hS (st.apply e).est v s
      cases h : step (st.apply e).est v s with
      | stop o => exact hStop _ _ _ _ (hest e he) hv (h ▸ hs)
      | cont o s' => exact hCont _ _ _ _ _ _ hv (h ▸ hs) (hnext s')
      | brk s' => exact hBrk _ _ _ _ _ (h ▸ hs) (hTail _ s' (hest e he))
    cases it with
    | ret e => exact hTail _ s (hest e rfl)
    | raise te e =>
      exact after e none _ rfl (hQ none (by simp [stepVals])) fun s' => hTail _ s' (hest e rfl)
    | yield v e =>
      simp only [loop]
      split
      · exact hTail _ s (hest e rfl)
      · refine after e (some v) _ rfl (hQ (some v) (by simp [stepVals])) fun s' => ?_
        refine ih (fun x hx => hQ x (by simp [stepVals, hx])) _ s' fun hq' => ?_
        obtain ⟨h1, h2, h3⟩ := hst e rfl hq'
        rw [h1]; exact ⟨h2, h3⟩

/-- What `findStep` does with the response `r` that `validate_status` left, `cat` being the table's
category of its status: a status final for the table, or not known to it, ends the loop; Warning
and Pending go on. -/
inductive FindKnownSpec (cx : Nat) (cat : Option Category) (d : DsVal) (r : Rsp) : Step Rsp → Prop
  | final : cat ≠ some Category.pending → cat ≠ some Category.warning →
      FindKnownSpec cx cat d r (.stop (send cx r))
  | unencodable : cat = some Category.pending → d.encodes = false →
      FindKnownSpec cx cat d r (.stop (send cx { r with status := 0xC312 }))
  | warning : cat = some Category.warning → FindKnownSpec cx cat d r (.cont (send cx r) r)
  | pending : cat = some Category.pending → d.encodes = true →
      FindKnownSpec cx cat d r (.cont (send cx { r with ident := Ident.data }) { r with ident := Ident.data })
  | skip : FindKnownSpec cx cat d r (.cont Out.nil r)

inductive FindStepSpec (t : Table) (cx : Nat) (est : Bool) (v : Option YieldVal) (r : Rsp) : Step Rsp → Prop
  | crash : unpack 0xC311 v = none → FindStepSpec t cx est v r (.stop Out.crash)
  | down : est = false → FindStepSpec t cx est v r (.stop Out.nil)
  | known (s d o x) : unpack 0xC311 v = some (s, d, o) →
      FindKnownSpec cx (tableCat t (statusCode s)) d (validateStatus .find s r.clearIdent) x →
      FindStepSpec t cx est v r x

theorem findStep_spec (t : Table) (cx : Nat) (est : Bool) (v : Option YieldVal) (r : Rsp) :
    FindStepSpec t cx est v r (findStep t cx est v r) := by
  unfold findStep
  split
  · next hu => exact .crash hu
  · next s d o hu =>
    split
    · next he => exact .down (by simpa using he)
    · refine .known s d o _ hu ?_
      rw [validateStatus_status]
      split
      · next hc => rw [hc]; exact .final nofun nofun
      · next cat hc =>
        rw [hc]
        cases cat with
        | success => exact .final nofun nofun
        | failure => exact .final nofun nofun
        | cancel => exact .final nofun nofun
        | warning => exact .warning rfl
        | unknown => exact .skip
        | pending =>
          simp only [findKnown]
          split
          · next hd => exact .pending rfl hd
          · next hd => exact .unencodable rfl (by simpa using hd)

theorem findStep_known {t : Table} {cx : Nat} {v : Option YieldVal} {r : Rsp} {s : StatusVal} {d : DsVal}
    {o : Outcome} {cat : Category} (hu : unpack 0xC311 v = some (s, d, o))
    (hc : tableCat t (statusCode s) = some cat) :
    findStep t cx true v r = findKnown cx cat (validateStatus .find s r.clearIdent) d := by
  simp only [findStep, hu, Bool.not_true, Bool.false_eq_true, if_false, validateStatus_status, hc]

theorem findTail_conf (repo : Bool) (cx : Nat) {q : Bool} (st : St) (r : Rsp) (he : q = true → st.est = true) :
    Conforms repo q (findTail cx st r) := by
  unfold findTail
  cases h : st.est with
  | false => exact conforms_nil_any (not_quiet_of_down he h)
  | true => exact conforms_send _ _ (by cases repo <;> rfl)

theorem findLoop_conforms {t : Table} (ht : FindTable t) (repo : Bool) (cx : Nat) (q : Bool) (items : List Item)
    (st : St) (r : Rsp) (hg : ∀ v ∈ stepVals items, GoodFind t repo v)
    (hq : q = true → st.up = true ∧ items.all Item.quiet = true) :
    Conforms repo q (findLoop t cx items st r) := by
  rw [findLoop_eq_loop]
  refine loop_induct _ (findStep_spec t cx) q (GoodFind t repo) (fun _ out => Conforms repo q out)
    (findTail_conf repo cx) ?stop ?cont ?brk items hg st r hq
  case stop =>
    intro est v r o he ⟨s, d, o1, hu, hunk, _⟩ hs
    cases hs with
    | crash hn => rw [hu] at hn; cases hn
    | down hd => exact conforms_nil_any (not_quiet_of_down he hd)
    | known s2 d2 o2 _ hu2 hk =>
      rw [hu] at hu2; cases hu2
      cases hk with
      | unencodable => exact conforms_send _ _ (by cases repo <;> rfl)
      | final h1 h2 =>
        refine conforms_send _ _ ?_
        rw [validateStatus_status]
        exact ht.final hunk h1 fun _ => h2
  case cont =>
    intro est v r o r1 o1 ⟨s, d, o2, hu, _, hwarn⟩ hs ih
    -- what is sent before the loop goes on has the handler's status, which is non-final
    have more : ∀ r2 : Rsp, r2.status = (validateStatus .find s r.clearIdent).status →
        nonFinalCode repo (statusCode s) = true → Conforms repo q (send cx r2 ++ o1) := fun r2 h1 h2 =>
      conforms_cons (by rw [nonFinal, h1, validateStatus_status]; exact h2) ih
    cases hs with
    | known s2 d2 o2 _ hu2 hk =>
      rw [hu] at hu2; cases hu2
      cases hk with
      | skip => rw [Out.nil_append]; exact ih
      | warning hc => exact more _ rfl (hwarn hc)
      | pending hc => exact more _ rfl (ht.nonFinal_of_pending hc)
  case brk =>
    intro est v r r1 o hs _
    cases hs with
    | known _ _ _ _ _ hk => cases hk

theorem findLoop_idsOK (t : Table) (cx m : Nat) (items : List Item) (st : St) (r : Rsp)
    (hr : r.msgIdResp = m) (hv : ∀ v ∈ stepVals items, VNoMsgId v) : IdsOK cx m (findLoop t cx items st r) := by
  -- `validate_status` keeps the message id when the status object carries none
  have keep : ∀ {v s d o} (r : Rsp), VNoMsgId v → unpack 0xC311 v = some (s, d, o) → r.msgIdResp = m →
      (validateStatus .find s r.clearIdent).msgIdResp = m := fun r hv hu hr => by
    rw [validateStatus_msgId _ _ _ (unpack_noMsgId hv hu)]; exact hr
  rw [findLoop_eq_loop]
  refine loop_induct _ (findStep_spec t cx) false VNoMsgId (fun r out => r.msgIdResp = m → IdsOK cx m out)
    ?tail ?stop ?cont ?brk items hv st r nofun hr
  case tail =>
    intro st r _ hr
    unfold findTail
    split
    · exact IdsOK_nil _ _
    · exact IdsOK_send hr
  case stop =>
    intro est v r o _ hv hs hr
    cases hs with
    | crash => exact IdsOK_crash _ _
    | down => exact IdsOK_nil _ _
    | known s d o _ hu hk =>
      cases hk with
      | final => exact IdsOK_send (keep r hv hu hr)
      | unencodable => exact IdsOK_send (keep r hv hu hr)
  case cont =>
    intro est v r o r1 o1 hv hs ih hr
    cases hs with
    | known s d o _ hu hk =>
      cases hk with
      | skip => rw [Out.nil_append]; exact ih (keep r hv hu hr)
      | warning => exact IdsOK_append (IdsOK_send (keep r hv hu hr)) (ih (keep r hv hu hr))
      | pending => exact IdsOK_append (IdsOK_send (keep r hv hu hr)) (ih (keep r hv hu hr))
  case brk =>
    intro est v r r1 o hs _
    cases hs with
    | known _ _ _ _ _ hk => cases hk

/-- The final responses a loop body can send; `g` is the state after `rsp.Identifier = None`. -/
inductive StopSpec (p : Prim) (t : Table) (g : GmSt) (s : StatusVal) (d : DsVal) : Rsp → Prop
  | unknown : tableCat t (statusCode s) = none → StopSpec p t g s d (validateStatus p s g.rsp)
  | cancel : tableCat t (statusCode s) = some Category.cancel →
      StopSpec p t g s d { (validateStatus p s g.rsp).setCounters g.ctr with ident := finalIdent d g.failed }
  | failWarn : (tableCat t (statusCode s) = some Category.failure ∨
        tableCat t (statusCode s) = some Category.warning) →
      StopSpec p t g s d { validateStatus p s g.rsp with
        fail := some (g.ctr.fail + g.ctr.rem), warn := some g.ctr.warn, comp := some g.ctr.comp,
        ident := finalIdent d g.failed }
  | success : tableCat t (statusCode s) = some Category.success →
      StopSpec p t g s d (gmSuccess (validateStatus p s g.rsp) g)

namespace StopSpec
variable {p : Prim} {t : Table} {g : GmSt} {s : StatusVal} {d : DsVal} {r : Rsp}

theorem status (h : StopSpec p t g s d r) :
    tableCat t (statusCode s) ≠ some Category.pending ∧
    (r.status = statusCode s ∨ (tableCat t (statusCode s) = some Category.success ∧ r.status = 0xB000)) := by
  have hst := validateStatus_status p s g.rsp
  cases h with
  | unknown hc => exact ⟨by simp [hc], .inl hst⟩
  | cancel hc => exact ⟨by simp [hc], .inl hst⟩
  | failWarn hc => exact ⟨by rcases hc with hc | hc <;> simp [hc], .inl hst⟩
  | success hc =>
    refine ⟨by simp [hc], ?_⟩
    rw [gmSuccess_eq, ← hst]
    by_cases hz : g.ctr.fail = 0 ∧ g.ctr.warn = 0
    · exact .inl (if_pos hz)
    · exact .inr ⟨hst ▸ hc, if_neg hz⟩

theorem eq_success (h : StopSpec p t g s d r) (hc : tableCat t (statusCode s) = some Category.success) :
    r = gmSuccess (validateStatus p s g.rsp) g := by
  cases h with
  | success _ => rfl
  | unknown hk => rw [hc] at hk; cases hk
  | cancel hk => rw [hc] at hk; cases hk
  | failWarn hk => rcases hk with hk | hk <;> (rw [hc] at hk; cases hk)

theorem msgId (h : StopSpec p t g s d r) : r.msgIdResp = (validateStatus p s g.rsp).msgIdResp := by
  cases h with
  | success _ => rw [gmSuccess_eq]
  | _ => rfl

theorem isPending {t : Table} (ht : RetrieveTable t) (h : StopSpec p t g s d r) (cx : Nat) :
    Scp.isPending t ⟨cx, r⟩ = false := by
  refine beq_eq_false_iff_ne.mpr ?_
  obtain ⟨hn, hs | ⟨_, hs⟩⟩ := h.status
  · rw [show (Snap.mk cx r).r.status = statusCode s from hs]; exact hn
  · rw [show (Snap.mk cx r).r.status = 0xB000 from hs, ht.warning]; simp

theorem final {t : Table} (ht : StdTable t)
    (hgood : tableCat t (statusCode s) = none → pendingCode (statusCode s) = false)
    (h : StopSpec p t g s d r) : nonFinalCode false r.status = false := by
  obtain ⟨hn, hs | ⟨_, hs⟩⟩ := h.status
  · rw [hs]
    exact ht.final (fun h => (nonFinalCode_false _).trans (hgood h)) hn nofun
  · rw [hs]; rfl

end StopSpec

/-- A Pending result for which a sub-operation is counted: `op` — a C-STORE, or an object that is
not a Dataset and is counted as failed — and one response, `g'.rsp`, which carries the counters
after it.  `step`: one is taken off `remaining` and at most one put on the other counters, exactly
one unless the C-STORE reply was Cancel. -/
structure SubStep (p : Prim) (t : Table) (s : StatusVal) (o : Outcome) (g : GmSt) (op : SubOp)
    (g' : GmSt) : Prop where
  pending : tableCat t (statusCode s) = some Category.pending
  rsp : g'.rsp = ({ validateStatus p s g.rsp with ident := Ident.none }).setCounters g'.ctr
  step : ∃ a b c, a + b + c ≤ 1 ∧ (o ≠ Outcome.cancel → a + b + c = 1) ∧
    g'.ctr = ⟨g.ctr.rem - 1, g.ctr.fail + a, g.ctr.warn + b, g.ctr.comp + c⟩
  failed : ∀ {pre}, g.failed = failedSpec pre → g'.failed = failedSpec (pre ++ [op])

namespace SubStep
variable {p : Prim} {t : Table} {s : StatusVal} {o : Outcome} {g g' : GmSt} {op : SubOp}

theorem ctr (h : SubStep p t s o g op g') : g'.rsp.ctr? = some g'.ctr := by
  rw [h.rsp]; exact setCounters_ctr _ _

theorem status (h : SubStep p t s o g op g') : g'.rsp.status = statusCode s := by
  rw [h.rsp]; exact validateStatus_status p s g.rsp

theorem ident (h : SubStep p t s o g op g') : g'.rsp.ident = Ident.none := by
  rw [h.rsp]; rfl

theorem msgId (h : SubStep p t s o g op g') : g'.rsp.msgIdResp = (validateStatus p s g.rsp).msgIdResp := by
  rw [h.rsp]; rfl

theorem isPending (h : SubStep p t s o g op g') (cx : Nat) : Scp.isPending t ⟨cx, g'.rsp⟩ = true := by
  rw [isPending_iff, h.status]; exact h.pending

theorem nonFinal {t : Table} (ht : StdTable t) (h : SubStep p t s o g op g') (cx : Nat) :
    Scp.nonFinal false ⟨cx, g'.rsp⟩ = true := by
  show nonFinalCode false g'.rsp.status = true
  rw [h.status]; exact ht.nonFinal_of_pending h.pending

theorem counters (h : SubStep p t s o g op g') (hrem : g.ctr.rem ≠ 0) :
    g.ctr.later g'.ctr ∧ g'.ctr.sum ≤ g.ctr.sum ∧ (o ≠ Outcome.cancel → g'.ctr.sum = g.ctr.sum) := by
  obtain ⟨a, b, c, h1, h2, hc⟩ := h.step
  rw [hc]
  refine ⟨?_, ?_, fun ho => ?_⟩
  · simp only [Ctr.later]; omega
  · simp only [Ctr.sum]; omega
  · have := h2 ho
    simp only [Ctr.sum]; omega

end SubStep

inductive GmStepSpec (p : Prim) (t : Table) (cx : Nat) (exc : Int) (est : Bool) (v : Option YieldVal) (g : GmSt) :
    Step GmSt → Prop
  | crash : unpack exc v = none → GmStepSpec p t cx exc est v g (.stop Out.crash)
  | down : est = false → GmStepSpec p t cx exc est v g (.stop Out.nil)
  | brk : g.ctr.rem = 0 → GmStepSpec p t cx exc est v g (.brk g.clearIdent)
  | final (s d o r) : unpack exc v = some (s, d, o) → g.ctr.rem ≠ 0 → StopSpec p t g.clearIdent s d r →
      GmStepSpec p t cx exc est v g (.stop (send cx r))
  | skip (s d o) : unpack exc v = some (s, d, o) →
      GmStepSpec p t cx exc est v g (.cont Out.nil { g.clearIdent with rsp := validateStatus p s g.clearIdent.rsp })
  | sub (s d o op g') : unpack exc v = some (s, d, o) → g.ctr.rem ≠ 0 → SubStep p t s o g.clearIdent op g' →
      GmStepSpec p t cx exc est v g (.cont { rsps := [⟨cx, g'.rsp⟩], subops := [op] } g')

theorem gmStep_spec (p : Prim) (t : Table) (cx : Nat) (exc : Int) (est : Bool) (v : Option YieldVal) (g : GmSt) :
    GmStepSpec p t cx exc est v g (gmStep p t cx exc est v g) := by
  unfold gmStep
  split
  · next hu => exact .crash hu
  · next s d o hu =>
    split
    · next he => exact .down (by simpa using he)
    · split
      · next hr => exact .brk (by simpa using hr)
      · next hr =>
        have hrem : g.ctr.rem ≠ 0 := by simpa using hr
        unfold gmDispatch
        rw [validateStatus_status]
        split
        · next hc => exact .final _ _ _ _ hu hrem (.unknown hc)
        · next cat hc =>
          cases cat with
          | cancel => exact .final _ _ _ _ hu hrem (.cancel hc)
          | failure => exact .final _ _ _ _ hu hrem (.failWarn (.inl hc))
          | warning => exact .final _ _ _ _ hu hrem (.failWarn (.inr hc))
          | success => exact .final _ _ _ _ hu hrem (.success hc)
          | unknown => exact .skip _ _ _ hu
          | pending =>
            simp only [gmKnown, gmPending]
            split
            · -- the unifier finds `g'` only when told that it is a structure instance
              split
              · exact .sub _ _ _ _ ⟨_, _, _⟩ hu hrem
                  ⟨hc, rfl, ⟨1, 0, 0, Nat.le_refl 1, fun _ => rfl, rfl⟩, fun hf => by rw [failedSpec_append, ← hf]; rfl⟩
              · exact .sub _ _ _ _ ⟨_, _, _⟩ hu hrem
                  ⟨hc, rfl, Ctr.afterStore_eq _ o, fun hf => failedAfterStore_spec hf d.uid o⟩
            · exact .skip _ _ _ hu

theorem gmStep_known {p : Prim} {t : Table} {cx : Nat} {exc : Int} {v : Option YieldVal} {g : GmSt}
    {s : StatusVal} {d : DsVal} {o : Outcome} {cat : Category} (hu : unpack exc v = some (s, d, o))
    (hrem : g.ctr.rem ≠ 0) (hc : tableCat t (statusCode s) = some cat) :
    gmStep p t cx exc true v g = gmKnown cx cat (validateStatus p s g.clearIdent.rsp) d o g.clearIdent := by
  simp only [gmStep, hu, Bool.not_true, Bool.false_eq_true, if_false, beq_iff_eq, hrem, gmDispatch,
    validateStatus_status, hc]

theorem gmStep_unknown {p : Prim} {t : Table} {cx : Nat} {exc : Int} {v : Option YieldVal} {g : GmSt}
    {s : StatusVal} {d : DsVal} {o : Outcome} (hu : unpack exc v = some (s, d, o))
    (hrem : g.ctr.rem ≠ 0) (hc : tableCat t (statusCode s) = none) :
    gmStep p t cx exc true v g = .stop (send cx (validateStatus p s g.clearIdent.rsp)) := by
  simp only [gmStep, hu, Bool.not_true, Bool.false_eq_true, if_false, beq_iff_eq, hrem, gmDispatch,
    validateStatus_status, hc]

/-- Induction over the C-GET / C-MOVE loop, one case for each thing a loop body can do.  `P g out`:
the loop started in state `g` may produce `out`.  `hClear` is there because the cases are applied
at `g.clearIdent` — every body first sets `rsp.Identifier = None` — and have to come back to `g`;
it is `fun _ _ h => h` for a `P` that looks at `g` through `ctr`, `failed` and `rsp.msgIdResp`
only, as all here do.  `Q` and `q` as in `loop_induct`. -/
theorem gmLoop_induct (p : Prim) (t : Table) (cx n : Nat) (exc : Int) (q : Bool) (Q : Option YieldVal → Prop)
    (P : GmSt → Out → Prop)
    (hClear : ∀ g o, P g.clearIdent o → P g o)
    (hTail : ∀ st g, (q = true → st.est = true) → P g (gmTail cx n st g))
    (hCrash : ∀ g v, Q v → unpack exc v = none → P g Out.crash)
    (hDown : ∀ g, q = false → P g Out.nil)
    (hFinal : ∀ g v s d o r, Q v → unpack exc v = some (s, d, o) → g.ctr.rem ≠ 0 → g.rsp.ident = Ident.none →
      StopSpec p t g s d r → P g (send cx r))
    (hSkip : ∀ g v s d o o', Q v → unpack exc v = some (s, d, o) →
      P { g with rsp := validateStatus p s g.rsp } o' → P g o')
    (hSub : ∀ g v s d o op g' o', Q v → unpack exc v = some (s, d, o) → g.ctr.rem ≠ 0 →
      SubStep p t s o g op g' → P g' o' → P g ({ rsps := [⟨cx, g'.rsp⟩], subops := [op] } ++ o')) :
    ∀ items, (∀ x ∈ stepVals items, Q x) → ∀ st g,
      (q = true → st.up = true ∧ items.all Item.quiet = true) → P g (gmLoop p t cx n exc items st g) := by
  intro items hQ st g hq
  rw [gmLoop_eq_loop]
  refine loop_induct _ (gmStep_spec p t cx exc) q Q P hTail ?_ ?_ ?_ items hQ st g hq
  · intro est v g o he hv hs
    cases hs with
    | crash hu => exact hCrash g v hv hu
    | down hd => exact hDown g (not_quiet_of_down he hd)
    | final s d o r hu hrem hspec => exact hClear _ _ (hFinal _ v s d o r hv hu hrem rfl hspec)
  · intro est v g o g' o' hv hs ih
    cases hs with
    | skip s d o hu => rw [Out.nil_append]; exact hClear _ _ (hSkip _ v s d o o' hv hu ih)
    | sub s d o op g' hu hrem hsub => exact hClear _ _ (hSub _ v s d o op g' o' hv hu hrem hsub ih)
  · intro est v g g' o hs ih
    cases hs with
    | brk _ => exact hClear _ _ ih

theorem gmTail_conf (cx n : Nat) {q : Bool} (st : St) (g : GmSt) (he : q = true → st.est = true) :
    Conforms false q (gmTail cx n st g) := by
  unfold gmTail
  cases h : st.est with
  | false => exact conforms_nil_any (not_quiet_of_down he h)
  | true => exact conforms_send _ _ (by rw [gmFinal_eq]; exact finalStatusSpec_final _ _ _)

theorem gmLoop_conforms {t : Table} (ht : StdTable t) (p : Prim) (cx n : Nat) (exc : Int) (q : Bool)
    (items : List Item) (st : St) (g : GmSt) (hg : ∀ v ∈ stepVals items, GoodRetrieve t exc v)
    (hq : q = true → st.up = true ∧ items.all Item.quiet = true) :
    Conforms false q (gmLoop p t cx n exc items st g) := by
  refine gmLoop_induct p t cx n exc q (GoodRetrieve t exc) (fun _ out => Conforms false q out)
    (fun _ _ h => h) (gmTail_conf cx n) ?crash ?down ?final ?skip ?sub items hg st g hq
  case crash =>
    intro g v ⟨s, d, o, hu, _⟩ hn
    rw [hu] at hn; cases hn
  case down => intro g hq; exact conforms_nil_any hq
  case final =>
    intro g v s d o r ⟨s', d', o', hu', hgood⟩ hu _ _ hspec
    rw [hu] at hu'; cases hu'
    exact conforms_send _ _ (hspec.final ht hgood)
  case skip => intro g v s d o o' _ _ ih; exact ih
  case sub => intro g v s d o op g' o' _ _ _ hsub ih; exact conforms_cons (hsub.nonFinal ht cx) ih

theorem gmLoop_Sh {t : Table} (ht : StdTable t) (p : Prim) (cx n : Nat) (exc : Int) (items : List Item)
    (st : St) (g : GmSt) : Sh false (gmLoop p t cx n exc items st g).rsps := by
  refine gmLoop_induct p t cx n exc false (fun _ => True) (fun _ out => Sh false out.rsps)
    (fun _ _ h => h) ?tail ?crash ?down ?final ?skip ?sub items (fun _ _ => trivial) st g nofun
  case tail => intro st g he; exact (gmTail_conf cx n st g he).2.1
  case crash => intro _ _ _ _; exact Sh_nil _
  case down => intro _ _; exact Sh_nil _
  case final => intro _ _ _ _ _ r _ _ _ _ _; exact Sh_single _ _
  case skip => intro g v s d o o' _ _ ih; exact ih
  case sub => intro g v s d o op g' o' _ _ _ hsub ih; exact Sh_cons (hsub.nonFinal ht cx) ih

theorem gmLoop_idsOK (p : Prim) (t : Table) (cx n m : Nat) (exc : Int) (items : List Item) (st : St) (g : GmSt)
    (hg : g.rsp.msgIdResp = m) (hv : ∀ v ∈ stepVals items, VNoMsgId v) :
    IdsOK cx m (gmLoop p t cx n exc items st g) := by
  refine gmLoop_induct p t cx n exc false VNoMsgId (fun g out => g.rsp.msgIdResp = m → IdsOK cx m out)
    (fun _ _ h => h) ?tail ?crash ?down ?final ?skip ?sub items hv st g nofun hg
  case tail =>
    intro st g _ hg s hs
    rw [mem_gmTail hs, gmFinal_eq]; exact ⟨rfl, hg⟩
  case crash => intro _ _ _ _ _; exact IdsOK_crash _ _
  case down => intro _ _ _; exact IdsOK_nil _ _
  case final =>
    intro g v s d o r hv hu _ _ hspec hg
    exact IdsOK_send (by rw [hspec.msgId, validateStatus_msgId _ _ _ (unpack_noMsgId hv hu), hg])
  case skip =>
    intro g v s d o o' hv hu ih hg
    exact ih (by rw [← hg]; exact validateStatus_msgId _ _ _ (unpack_noMsgId hv hu))
  case sub =>
    intro g v s d o op g' o' hv hu _ hsub ih hg
    have hg' : g'.rsp.msgIdResp = m := by
      rw [hsub.msgId, validateStatus_msgId _ _ _ (unpack_noMsgId hv hu), hg]
    intro x hx
    rcases List.mem_cons.mp hx with rfl | hx
    · exact ⟨rfl, hg'⟩
    · exact ih hg' x hx

end PynetVerif.Scp
