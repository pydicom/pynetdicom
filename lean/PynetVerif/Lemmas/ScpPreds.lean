import PynetVerif.Lemmas.Scp
import PynetVerif.Spec.ScpStatus
/-!
What C20, C21 and C22 speak of.  C22: the prescribed final status and failed-UID list, the two
final responses `_get_scp/_move_scp` compute themselves in closed form, the hypotheses on yielded
values.  C20: the shape predicates `Sh`, `Finished`, `Conforms` with the few lemmas they are used
through, quiet (event-free) behaviours, the hypotheses of the `_partial` theorems, message ids
(`IdsOK`, `noMsgId`).  C21: the glue to Spec.ScpStatus.
-/
namespace PynetVerif.Scp

/-- what the loop bodies are run on: `some v` for a yielded value, `none` for the
`(None, exc_info)` tuple of a raise -/
def stepVals : List Item → List (Option YieldVal)
  | [] => []
  | .yield v _ :: rest => some v :: stepVals rest
  | .raise _ _ :: rest => none :: stepVals rest
  | .ret _ :: rest => stepVals rest

open PynetVerif.Status (Category)

/-- a response whose status the service's table classifies as Pending -/
def isPending (t : Table) (s : Snap) : Bool := tableCat t s.r.status == some Category.pending

/-- the sub-operation outcome attached to a yielded value is one the property quantifies over -/
def Quantified : Option YieldVal → Prop
  | some (.pair _ _ o) => o ≠ Outcome.cancel
  | _ => True

/-- the loop of `_get_scp/_move_scp` entered with `n` announced sub-operations -/
def retrieveOut (p : Prim) (t : Table) (cx n : Nat) (exc : Int) (items : List Item) (st : St) (r0 : Rsp) : Out :=
  gmLoop p t cx n exc items st { ctr := { rem := n }, rsp := r0 }

/-- the final status the property prescribes -/
def finalStatusSpec (n fail warn : Nat) : Int :=
  if fail = 0 ∧ warn = 0 then 0x0000 else if fail = n then 0xA702 else 0xB000

/-- the UIDs the final response must list: the instances whose sub-operation failed, in
order; an invalid object contributes the empty UID (as the code does); an instance without
a SOP Instance UID cannot be listed -/
def failedSpec : List SubOp → List (Option Nat)
  | [] => []
  | .invalid :: rest => none :: failedSpec rest
  | .store uid o :: rest =>
    (if o.isFail then (match uid with | some u => [some u] | none => []) else []) ++ failedSpec rest

theorem isPending_iff (t : Table) (s : Snap) :
    isPending t s = true ↔ tableCat t s.r.status = some Category.pending := by
  unfold isPending; exact beq_iff_eq

theorem finalStatusSpec_cat {t : Table} (ht : RetrieveTable t) (n f w : Nat) :
    tableCat t (finalStatusSpec n f w) = some Category.success ∨
    tableCat t (finalStatusSpec n f w) = some Category.failure ∨
    tableCat t (finalStatusSpec n f w) = some Category.warning := by
  unfold finalStatusSpec
  split
  · exact .inl ht.success
  · split
    · exact .inr (.inl ht.allFailed)
    · exact .inr (.inr ht.warning)

theorem finalStatusSpec_not_pending {t : Table} (ht : RetrieveTable t) (n f w : Nat) :
    tableCat t (finalStatusSpec n f w) ≠ some Category.pending := by
  rcases finalStatusSpec_cat ht n f w with h | h | h <;> simp [h]

theorem finalStatusSpec_known {t : Table} (ht : RetrieveTable t) (n f w : Nat) :
    tableCat t (finalStatusSpec n f w) ≠ none := by
  rcases finalStatusSpec_cat ht n f w with h | h | h <;> simp [h]

theorem ident_none_iff {c : Prop} [Decidable c] {l : List (Option Nat)} :
    (if c then Ident.none else Ident.failed l) = Ident.none ↔ c := by
  split <;> simp [*]

/-- `remaining` is not set after the loop: the final response carries what the last Pending one
reported. -/
theorem gmFinal_eq (n : Nat) (g : GmSt) :
    gmFinal n g = { g.rsp with
      status := finalStatusSpec n g.ctr.fail g.ctr.warn,
      ident := if g.ctr.fail = 0 ∧ g.ctr.warn = 0 then Ident.none else Ident.failed g.failed,
      fail := some g.ctr.fail, warn := some g.ctr.warn, comp := some g.ctr.comp } := by
  unfold gmFinal finalStatusSpec
  by_cases h : g.ctr.fail = 0 ∧ g.ctr.warn = 0
  · simp [h]
  · have hb : (g.ctr.fail == 0 && g.ctr.warn == 0) = false := by
      simp only [Bool.and_eq_false_iff, beq_eq_false_iff_ne]; omega
    by_cases h2 : n = g.ctr.fail
    · simp [hb, h, h2]
    · have h3 : ¬ g.ctr.fail = n := fun e => h2 e.symm
      simp [hb, h, h2, h3]

theorem gmSuccess_eq (r : Rsp) (g : GmSt) :
    gmSuccess r g = { r with
      status := if g.ctr.fail = 0 ∧ g.ctr.warn = 0 then r.status else 0xB000,
      ident := if g.ctr.fail = 0 ∧ g.ctr.warn = 0 then Ident.none else Ident.failed g.failed,
      fail := some g.ctr.fail, warn := some g.ctr.warn, comp := some g.ctr.comp } := by
  unfold gmSuccess
  by_cases h : g.ctr.fail = 0 ∧ g.ctr.warn = 0
  · simp [h]
  · have hb : (g.ctr.fail != 0 || g.ctr.warn != 0) = true := by
      simp only [Bool.or_eq_true, bne_iff_ne]; omega
    simp [hb, h]

theorem mem_gmTail {cx n : Nat} {st : St} {g : GmSt} {s : Snap} (h : s ∈ (gmTail cx n st g).rsps) :
    s = ⟨cx, gmFinal n g⟩ := by
  unfold gmTail at h
  split at h
  · cases h
  · exact List.mem_singleton.mp h

theorem gmTail_subops (cx n : Nat) (st : St) (g : GmSt) : (gmTail cx n st g).subops = [] := by
  unfold gmTail; split <;> rfl

theorem isPending_gmFinal {t : Table} (ht : RetrieveTable t) (cx n : Nat) (g : GmSt) :
    isPending t ⟨cx, gmFinal n g⟩ = false := by
  rw [gmFinal_eq]
  exact beq_eq_false_iff_ne.mpr (finalStatusSpec_not_pending ht _ _ _)

/-- counters `b` are "later" than `a`: remaining did not increase, the others did not decrease -/
def Ctr.later (a b : Ctr) : Prop := b.rem ≤ a.rem ∧ a.fail ≤ b.fail ∧ a.warn ≤ b.warn ∧ a.comp ≤ b.comp

/-- response `b` carries counters later than those of response `a` -/
def Snap.later (a b : Snap) : Prop := ∃ ca cb, a.r.ctr? = some ca ∧ b.r.ctr? = some cb ∧ ca.later cb

theorem failedSpec_append : ∀ (a b : List SubOp), failedSpec (a ++ b) = failedSpec a ++ failedSpec b := by
  intro a
  induction a with
  | nil => intro b; rfl
  | cons x xs ih =>
    intro b
    cases x with
    | invalid => simp [failedSpec, ih]
    | store uid o => simp [failedSpec, ih]

theorem Ctr.afterStore_eq (c : Ctr) (o : Outcome) :
    ∃ a b d, a + b + d ≤ 1 ∧ (o ≠ Outcome.cancel → a + b + d = 1) ∧
      c.afterStore o = ⟨c.rem - 1, c.fail + a, c.warn + b, c.comp + d⟩ := by
  cases o with
  | success => exact ⟨0, 0, 1, Nat.le_refl 1, fun _ => rfl, rfl⟩
  | warning => exact ⟨0, 1, 0, Nat.le_refl 1, fun _ => rfl, rfl⟩
  | failure => exact ⟨1, 0, 0, Nat.le_refl 1, fun _ => rfl, rfl⟩
  | exception => exact ⟨1, 0, 0, Nat.le_refl 1, fun _ => rfl, rfl⟩
  | cancel => exact ⟨0, 0, 0, Nat.zero_le 1, fun ho => absurd rfl ho, rfl⟩

theorem failedAfterStore_spec {failed : List (Option Nat)} {pre : List SubOp} (h : failed = failedSpec pre)
    (uid : Option Nat) (o : Outcome) : failedAfterStore failed uid o = failedSpec (pre ++ [.store uid o]) := by
  rw [failedSpec_append, ← h]
  simp only [failedAfterStore, failedSpec, List.append_nil]
  cases o.isFail <;> cases uid <;> simp

theorem unpack_quantified {exc : Int} {v : Option YieldVal} {s : StatusVal} {d : DsVal} {o : Outcome}
    (hq : Quantified v) (h : unpack exc v = some (s, d, o)) : o ≠ Outcome.cancel := by
  rcases unpack_some h with ⟨_, _, _, rfl⟩ | rfl | ⟨_, _, _, _, rfl⟩
  · nofun
  · exact hq
  · nofun

/-- the yielded value is a `(status, dataset)` pair whose status is an int the table calls Pending,
or an int the table calls Success (the handler's own final Success) -/
def PendingOrSuccessYield (t : Table) : Option YieldVal → Prop
  | some (.pair (.int c) _ _) => tableCat t c = some Category.pending ∨ tableCat t c = some Category.success
  | _ => False

theorem pendingYield_unpack {t : Table} {exc : Int} {v : Option YieldVal} {s : StatusVal} {d : DsVal}
    {o : Outcome} (hq : PendingOrSuccessYield t v) (h : unpack exc v = some (s, d, o)) :
    ∃ c, s = StatusVal.int c ∧
      (tableCat t c = some Category.pending ∨ tableCat t c = some Category.success) := by
  rcases unpack_some h with ⟨rfl, _⟩ | rfl | ⟨_, rfl, _⟩
  · exact hq.elim
  · cases s with
    | int c => exact ⟨c, rfl, hq⟩
    | ds _ => exact hq.elim
    | bad => exact hq.elim
  · exact hq.elim

/-- the number of sub-operations `_get_scp` reads from the handler, when it is valid -/
def announcedGet : Handler → Option Nat
  | .gen (.yield (.status (.int c)) _ :: _) => if 1 ≤ c ∧ c ≤ 65535 then some c.toNat else none
  | _ => none

/-- the number of sub-operations `_move_scp` reads from the handler (second value), when it is valid -/
def announcedMove : Handler → Option Nat
  | .gen (.yield _ _ :: .yield (.status (.int c)) _ :: _) => if 1 ≤ c ∧ c ≤ 65535 then some c.toNat else none
  | _ => none

/-- the generator items left when the loop starts -/
def Handler.itemsFrom (k : Nat) : Handler → List Item
  | .gen items => items.drop k
  | _ => []

def nonFinal (repo : Bool) (s : Snap) : Bool := nonFinalCode repo s.r.status

/-- nothing follows a final response -/
def Sh (repo : Bool) (l : List Snap) : Prop :=
  ∀ pre f post, l = pre ++ f :: post → nonFinal repo f = false → post = []

/-- the last response exists and is final -/
def Finished (repo : Bool) (l : List Snap) : Prop :=
  ∃ pre f, l = pre ++ [f] ∧ nonFinal repo f = false

theorem Sh_nil (repo : Bool) : Sh repo [] := by
  intro pre f post h; cases pre <;> cases h

theorem Sh_single (repo : Bool) (s : Snap) : Sh repo [s] := by
  intro pre f post h _
  cases pre with
  | nil => simp at h; exact h.2
  | cons p ps => simp at h

theorem Sh_of_le_one (repo : Bool) {l : List Snap} (h : l.length ≤ 1) : Sh repo l := by
  cases l with
  | nil => exact Sh_nil _
  | cons a l' =>
    cases l' with
    | nil => exact Sh_single _ _
    | cons b l'' => simp at h

theorem length_send (cx : Nat) (r : Rsp) : (send cx r).rsps.length ≤ 1 := by simp

theorem Sh_cons {repo : Bool} {s : Snap} {l : List Snap} (hs : nonFinal repo s = true) (hl : Sh repo l) :
    Sh repo (s :: l) := by
  intro pre f post h hf
  cases pre with
  | nil =>
    simp only [List.nil_append, List.cons.injEq] at h
    rw [← h.1, hs] at hf; cases hf
  | cons p ps =>
    simp only [List.cons_append, List.cons.injEq] at h
    exact hl ps f post h.2 hf

theorem Finished_single {repo : Bool} {s : Snap} (h : nonFinal repo s = false) : Finished repo [s] :=
  ⟨[], s, rfl, h⟩

theorem Finished_cons {repo : Bool} (s : Snap) {l : List Snap} (h : Finished repo l) : Finished repo (s :: l) := by
  obtain ⟨pre, f, h1, h2⟩ := h
  exact ⟨s :: pre, f, by rw [h1]; rfl, h2⟩

/-- what C20 asks of the responses to one request: no exception escapes the SCP, nothing follows
a final response, and — when no abort/release intervened — there is a final response -/
def Conforms (repo quiet : Bool) (o : Out) : Prop :=
  o.crashed = false ∧ Sh repo o.rsps ∧ (quiet = true → Finished repo o.rsps)

theorem conforms_send {repo quiet : Bool} (cx : Nat) (r : Rsp) (h : nonFinalCode repo r.status = false) :
    Conforms repo quiet (send cx r) :=
  ⟨rfl, Sh_single _ _, fun _ => Finished_single h⟩

theorem conforms_cons {repo quiet : Bool} {s : Snap} {l : List SubOp} {o : Out} (h : nonFinal repo s = true)
    (ho : Conforms repo quiet o) : Conforms repo quiet ({ rsps := [s], subops := l } ++ o) :=
  ⟨ho.1, Sh_cons h ho.2.1, fun hq => Finished_cons _ (ho.2.2 hq)⟩

theorem conforms_nil_any {repo q : Bool} (hq : q = false) : Conforms repo q Out.nil :=
  ⟨rfl, Sh_nil _, fun h => by rw [hq] at h; cases h⟩

/-- Under the quiet flag `q` something stays up (the association, or a handler's events stay
quiet); it went down, so the flag is off. -/
theorem not_quiet_of_down {q up : Bool} (h : q = true → up = true) (hdown : up = false) : q = false := by
  cases q with
  | false => rfl
  | true => rw [h rfl] at hdown; cases hdown

def Ev.quiet (e : Ev) : Bool := !e.hAbort && !e.peer

def Item.quiet : Item → Bool
  | .yield _ e => e.quiet
  | .raise _ e => e.quiet
  | .ret e => e.quiet

/-- no association event happens while the handler runs -/
def Handler.quiet : Handler → Bool
  | .gen items => items.all Item.quiet
  | .fnRaise _ e => e.quiet
  | .fnNone e => e.quiet
  | .fnJunk e => e.quiet
  | .fnVal _ e => e.quiet

/-- the association is established and the peer has not asked to stop -/
def St.up (s : St) : Bool := s.est && !s.peer

theorem St.apply_quiet {s : St} {e : Ev} (he : e.quiet = true) : s.apply e = s := by
  cases s; cases e
  simp only [Ev.quiet, Bool.and_eq_true, Bool.not_eq_true'] at he
  simp [St.apply, he.1, he.2]

theorem St.up_est {s : St} (h : s.up = true) : s.est = true := by
  simp only [St.up, Bool.and_eq_true] at h; exact h.1

theorem St.up_peer {s : St} (h : s.up = true) : s.peer = false := by
  simp only [St.up, Bool.and_eq_true, Bool.not_eq_true'] at h; exact h.2

theorem up_init : ({} : St).up = true := rfl

theorem call_quiet (h : Handler) (hg : ∀ items, h ≠ .gen items) : h.call.2.quiet = h.quiet := by
  cases h with
  | gen items => exact absurd rfl (hg items)
  | fnRaise te e => rfl
  | fnNone e => rfl
  | fnJunk e => rfl
  | fnVal v e => rfl

/-- The hypothesis of the `_partial` theorems for `_c_find_scp`, on one value the loop body is
run on: it unpacks into two; a status the table does not know is not a Pending-looking code;
a status the table calls Warning is one that may precede the final response (only the
Repository Query 0xB001). -/
def GoodFind (t : Table) (repo : Bool) (v : Option YieldVal) : Prop :=
  ∃ s d o, unpack 0xC311 v = some (s, d, o) ∧
    (tableCat t (statusCode s) = none → nonFinalCode repo (statusCode s) = false) ∧
    (tableCat t (statusCode s) = some Category.warning → nonFinalCode repo (statusCode s) = true)

theorem goodFind_int {t : Table} {repo : Bool} {v : Option YieldVal} {c : Int} {d : DsVal} {o : Outcome}
    {cat : Category} (hu : unpack 0xC311 v = some (.int c, d, o)) (hc : tableCat t c = some cat)
    (hw : cat ≠ Category.warning) : GoodFind t repo v :=
  ⟨_, _, _, hu, fun h => absurd (hc.symm.trans h) nofun, fun h => absurd (Option.some.inj (hc.symm.trans h)) hw⟩

/-- The hypothesis of the `_partial` theorems for `_get_scp/_move_scp`, on one value the loop
body is run on: it unpacks into two, and a status the table does not know is not a
Pending-looking code. -/
def GoodRetrieve (t : Table) (exc : Int) (v : Option YieldVal) : Prop :=
  ∃ s d o, unpack exc v = some (s, d, o) ∧
    (tableCat t (statusCode s) = none → pendingCode (statusCode s) = false)

theorem finalStatusSpec_final (n f w : Nat) : nonFinalCode false (finalStatusSpec n f w) = false := by
  unfold finalStatusSpec
  split
  · decide
  · split <;> decide

/-- the hypothesis of `C20_shape_find_partial` on a handler -/
def GoodFindH (t : Table) (repo : Bool) : Handler → Prop
  | .gen items => ∀ v ∈ stepVals items, GoodFind t repo v
  | _ => True

/-- the hypothesis of `C20_shape_get_partial` / `_move_partial`: on the values yielded after the
announced count (C-MOVE: after destination and count) -/
def GoodRetrieveH (t : Table) (exc : Int) (k : Nat) (h : Handler) : Prop :=
  ∀ v ∈ stepVals (h.itemsFrom k), GoodRetrieve t exc v

/-- the hypothesis of `C20_shape_rp_partial` on the status of the handler's first result: the
table does not call it Warning (the SCP has no branch for Warning and sends nothing), and a
status the table does not know is not a Pending-looking code -/
def GoodRpStatus (t : Table) (s : StatusVal) : Prop :=
  tableCat t (statusCode s) ≠ some Category.warning ∧ tableCat t (statusCode s) ≠ some Category.unknown ∧
  (tableCat t (statusCode s) = none → pendingCode (statusCode s) = false)

def GoodRpH (t : Table) : Handler → Prop
  | .gen (.yield (.pair s _ _) _ :: _) => GoodRpStatus t s
  | .gen (.yield (.status (.ds elems)) _ :: _) => elems.length = 2 → GoodRpStatus t .bad
  | _ => True

/-- the hypothesis of the `_partial` theorems of the single-response services whose handler returns
a bare status (C-ECHO, C-STORE, N-DELETE): the status it produces is not a Pending-looking code -/
def GoodStatusH (h : Handler) : Prop :=
  h.call.1 = FnResult.raised ∨ pendingCode (statusCode (asStatus h.call.1)) = false

/-- the hypothesis of `C20_shape_n_partial`: the handler raises, or returns something that unpacks
into (status, dataset) with a status that is not a Pending-looking code -/
def GoodPairH (h : Handler) : Prop :=
  h.call.1 = FnResult.raised ∨
  ∃ s d o, fnPair h.call.1 = some (s, d, o) ∧ pendingCode (statusCode s) = false

/-- every response of `o` goes out on context `cx` with MessageIDBeingRespondedTo = `m` -/
def IdsOK (cx m : Nat) (o : Out) : Prop := ∀ s ∈ o.rsps, s.cx = cx ∧ s.r.msgIdResp = m

def YieldVal.noMsgId : YieldVal → Bool
  | .pair s _ _ => s.noMsgId
  | .status s => s.noMsgId
  | _ => true

def VNoMsgId : Option YieldVal → Prop
  | some v => v.noMsgId = true
  | none => True

def Item.noMsgId : Item → Bool
  | .yield v _ => v.noMsgId
  | _ => true

/-- no status dataset the handler supplies contains MessageIDBeingRespondedTo -/
def Handler.noMsgId : Handler → Bool
  | .gen items => items.all Item.noMsgId
  | .fnVal v _ => v.noMsgId
  | _ => true

theorem stepVals_noMsgId : ∀ (items : List Item), items.all Item.noMsgId = true →
    ∀ v ∈ stepVals items, VNoMsgId v
  | [], _, _, hv => nomatch hv
  | it :: rest, h, v, hv => by
    simp only [List.all_cons, Bool.and_eq_true] at h
    have ih := stepVals_noMsgId rest h.2 v
    cases it with
    | ret e => exact ih hv
    | raise te e =>
      rcases List.mem_cons.mp hv with rfl | hv
      · trivial
      · exact ih hv
    | yield x e =>
      rcases List.mem_cons.mp hv with rfl | hv
      · exact h.1
      · exact ih hv

theorem all_drop {α : Type} (p : α → Bool) (l : List α) (k : Nat) (h : l.all p = true) : (l.drop k).all p = true := by
  rw [List.all_eq_true] at h ⊢
  intro x hx
  exact h x (List.mem_of_mem_drop hx)

theorem IdsOK_nil (cx m : Nat) : IdsOK cx m Out.nil := by intro s hs; cases hs

theorem IdsOK_crash (cx m : Nat) : IdsOK cx m Out.crash := by intro s hs; cases hs

theorem IdsOK_send {cx m : Nat} {r : Rsp} (h : r.msgIdResp = m) : IdsOK cx m (send cx r) := by
  intro s hs
  simp only [send_rsps, List.mem_singleton] at hs
  subst hs; exact ⟨rfl, h⟩

theorem IdsOK_append {cx m : Nat} {a b : Out} (ha : IdsOK cx m a) (hb : IdsOK cx m b) : IdsOK cx m (a ++ b) := by
  intro s hs
  simp only [Out.append_rsps, List.mem_append] at hs
  rcases hs with hs | hs
  · exact ha s hs
  · exact hb s hs

theorem IdsOK_guard {cx m : Nat} {c : Bool} {o : Out} (h : IdsOK cx m o) :
    IdsOK cx m (if c then Out.nil else o) := by
  split
  · exact IdsOK_nil _ _
  · exact h

theorem unpack_noMsgId {exc : Int} {v : Option YieldVal} {s : StatusVal} {d : DsVal} {o : Outcome}
    (hv : VNoMsgId v) (h : unpack exc v = some (s, d, o)) : s.noMsgId = true := by
  rcases unpack_some h with ⟨_, rfl, _⟩ | rfl | ⟨_, _, rfl, _⟩
  · rfl
  · exact hv
  · rfl

theorem call_noMsgId (h : Handler) (hn : h.noMsgId = true) : (asStatus h.call.1).noMsgId = true := by
  cases h with
  | gen items => rfl
  | fnRaise te e => rfl
  | fnNone e => rfl
  | fnJunk e => rfl
  | fnVal v e =>
    cases v with
    | status s => exact hn
    | pair _ _ _ => rfl
    | dest _ => rfl
    | junk => rfl

theorem fnPair_noMsgId (h : Handler) (hn : h.noMsgId = true) {s : StatusVal} {d : DsVal} {o : Outcome}
    (hp : fnPair h.call.1 = some (s, d, o)) : s.noMsgId = true := by
  cases h with
  | fnVal v e => exact unpack_noMsgId (exc := 0) (v := some v) hn hp
  | _ => cases hp

open PynetVerif.Spec.ScpStatus (Svc StatusShape Result)

/-- the documented shape of a status object -/
def shapeOf : StatusVal → StatusShape
  | .int c => .int c
  | .bad => .wrongType
  | .ds elems =>
    match lastStatus elems with
    | some v => .dsWith v
    | none => .dsWithout

/-- the failure-code family of a response primitive -/
def svcOf : Prim → Svc
  | .echo => .echo
  | .store => .store
  | .find => .find
  | .get => .get
  | .move => .move
  | _ => .n

theorem statusCode_spec (svc : Svc) (s : StatusVal) (h : svc ≠ .echo) :
    statusCode s = Spec.ScpStatus.statusOf svc (shapeOf s) := by
  cases s with
  | int c => rfl
  | bad => simp [statusCode, shapeOf, Spec.ScpStatus.statusOf, h]
  | ds elems =>
    simp only [statusCode, shapeOf]
    cases lastStatus elems with
    | some v => rfl
    | none => simp [Spec.ScpStatus.statusOf, h]

theorem documented_status (svc : Svc) (hs : svc ≠ .echo) (s : StatusVal) :
    Spec.ScpStatus.documented svc (.status (shapeOf s)) = some (statusCode s) := by
  rw [statusCode_spec svc s hs]; rfl

/-- the status of the response a loop body sends, if it sends one -/
def stepStatus {σ : Type} : Step σ → Option Int
  | .stop o => o.rsps.head?.map (·.r.status)
  | .cont o _ => o.rsps.head?.map (·.r.status)
  | .brk _ => none

end PynetVerif.Scp
