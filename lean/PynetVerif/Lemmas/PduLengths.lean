import PynetVerif.Lemmas.PduRoundtrip
/-! `encOk p → lengthsExact (encode p)`, `lengthsExact` being the independent walker of `Model/PduWf.lean`. -/
namespace PynetVerif.Pdu
open PynetVerif.Framing (be32 be32_mk mkPdu)

/-- `be16_u16` as the walkers of `Model/PduWf.lean` spell it: `h.toNat * 256 + l.toNat` where the decoders say `be16 h l` -/
theorem be16' {n : Nat} (h : n < 65536) : (u8 (n / 256)).toNat * 256 + (u8 (n % 256)).toNat = n := be16_u16 h

/-- `walk` is `_generate_items` (`splitItems`) with the check applied to every item -/
theorem walk_eq_splitItems (check : UInt8 → Bytes → Bool) : ∀ (f : Nat) (b : Bytes),
    walk check f b = match splitItems f b with
      | .ok items => items.all fun x => check x.1 x.2
      | .error _ => false
  | _, [] => by cases ‹Nat› <;> rfl
  | 0, _ :: _ => rfl
  | f + 1, t :: r :: h :: l :: rest => by
    simp only [walk, splitItems, walk_eq_splitItems check f, be16]
    by_cases hn : rest.length < h.toNat * 256 + l.toNat
    · have : Nat.ble (h.toNat * 256 + l.toNat) rest.length = false := by
        rw [Bool.eq_false_iff, ne_eq, Nat.ble_eq]; omega
      simp only [hn, this, ↓reduceIte, Bool.false_and]
    · have : Nat.ble (h.toNat * 256 + l.toNat) rest.length = true := by rw [Nat.ble_eq]; omega
      simp only [hn, this, ↓reduceIte, Bool.true_and]
      cases splitItems f (rest.drop (h.toNat * 256 + l.toNat)) <;> simp
  | _ + 1, [_] => rfl
  | _ + 1, [_, _] => rfl
  | _ + 1, [_, _, _] => rfl

theorem walk_flatMap {α : Type} (check : UInt8 → Bytes → Bool) (enc : α → Bytes) {ok : α → Bool}
    (hok : ∀ x, ok x = true → IsItem (enc x) ∧ check (itemOf (enc x)).1 (itemOf (enc x)).2 = true)
    (xs : List α) (f : Nat) (hf : (xs.flatMap enc).length ≤ f) (h : xs.all ok = true) :
    walk check f (xs.flatMap enc) = true := by
  have h := List.all_eq_true.mp h
  have hs := split_flatMap enc xs (fun x hx => (hok x (h x hx)).1)
  rw [split, ← splitItems_fuel f _ _ hf (Nat.le_refl _)] at hs
  simp only [walk_eq_splitItems, hs, List.all_map, List.all_eq_true]
  exact fun x hx => (hok x (h x hx)).2

/-! `walkRel` and `walkPdv` are called with the length of an enclosing field as fuel, so the two lemmas
below are stated for any fuel that suffices. -/

theorem walkRel_enc (rel : List Bytes) (h : (encRelated rel).length < 65536) :
    ∀ f, (encRelated rel).length ≤ f → walkRel f (encRelated rel) = true := by
  induction rel with
  | nil => intro f _; cases f <;> rfl
  | cons u us ih =>
    have e : encRelated (u :: us) = u16 u.length ++ u ++ encRelated us := by
      simp [encRelated, List.flatMap_cons]
    rw [e] at h ⊢
    simp only [List.length_append, u16_length] at h ⊢
    intro f hf
    obtain ⟨f, rfl⟩ : ∃ f', f = f' + 1 := ⟨f - 1, by omega⟩
    have hb := be16' (by omega : u.length < 65536)
    have hle : Nat.ble u.length (u.length + (encRelated us).length) = true := by simp
    simp only [u16, List.cons_append, List.nil_append, List.length_append, walkRel, hb, List.drop_left, hle, Bool.true_and]
    exact ih (by omega) f (by omega)

theorem walkPdv_flatMap (pdvs : List PDV) (h : pdvs.all pdvOk = true) :
    ∀ f, (pdvs.flatMap encPdv).length ≤ f → walkPdv f (pdvs.flatMap encPdv) = true := by
  induction pdvs with
  | nil => intro f _; cases f <;> rfl
  | cons p ps ih =>
    simp only [List.all_cons, Bool.and_eq_true] at h
    have hp := h.1
    simp only [pdvOk, Bool.and_eq_true, lt8_iff, Nat.blt_eq] at hp
    have hb := be32_u32 (by omega : 1 + p.data.length < 4294967296)
    have hlen : (u8 p.id :: p.data).length = 1 + p.data.length := by simp; omega
    intro f hf
    simp only [List.flatMap_cons, encPdv, List.length_append, u32_length, List.length_cons] at hf
    obtain ⟨f, rfl⟩ : ∃ f', f = f' + 1 := ⟨f - 1, by omega⟩
    have h2 : Nat.ble (1 + p.data.length) ((u8 p.id :: p.data) ++ ps.flatMap encPdv).length = true := by
      simp; omega
    have h1 : Nat.ble 1 (1 + p.data.length) = true := by simp
    simp only [List.flatMap_cons, encPdv, u32, List.cons_append, List.nil_append, walkPdv, hb]
    rw [← List.cons_append, h1, h2, List.drop_left' hlen]
    exact ih h.2 f (by omega)

theorem checkUser_encUser {s : UserSub} (hf : userFits s = true) :
    checkUser (itemOf (encUser s)).1 (itemOf (encUser s)).2 = true := by
  rw [userFits_iff] at hf
  cases s <;> simp only [encUser, tlv_length, List.length_append, List.length_cons, List.length_nil, u16_length,
    u32_length] at hf
  case maxLen n => rfl
  case implUid u => rfl
  case asyncOps i p => rfl
  case role u scu scp =>
    show checkUser 0x54 (u16 u.length ++ u ++ [u8 scu, u8 scp]) = true
    simp [checkUser, u16, be16' (by omega : u.length < 65536)]
  case implVer n => rfl
  case sopExt u info =>
    show checkUser 0x56 (u16 u.length ++ u ++ info) = true
    simp [checkUser, u16, be16' (by omega : u.length < 65536)]
  case commonExt v sop svc rel =>
    have hr : (encRelated rel).length < 65536 := by omega
    show checkUser 0x57 (u16 sop.length ++ sop ++ (u16 svc.length ++ svc ++
      (u16 (encRelated rel).length ++ encRelated rel))) = true
    simp only [checkUser, u16, List.cons_append, List.nil_append, be16' (by omega : sop.length < 65536), List.drop_left,
      be16' (by omega : svc.length < 65536), be16' hr, walkRel_enc rel hr _ (Nat.le_refl _), List.length_append,
      List.length_cons]
    simp
  case userIdRq t r p s =>
    show checkUser 0x58 (u8 t :: u8 r :: (u16 p.length ++ p ++ (u16 s.length ++ s))) = true
    simp [checkUser, u16, be16' (by omega : p.length < 65536), be16' (by omega : s.length < 65536)]
  case userIdAc resp =>
    show checkUser 0x59 (u16 resp.length ++ resp) = true
    simp [checkUser, u16, be16' (by omega : resp.length < 65536)]

theorem checkVar_pc {t : UInt8} (ht : t = 0x20 ∨ t = 0x21) {k : Bool} {subs : List SynItem}
    (hs : subs.all (synOk k) = true) (a b c d : UInt8) :
    checkVar t (a :: b :: c :: d :: subs.flatMap encSyn) = true := by
  have ht' : (t = 0x20 || t = 0x21) = true := by rcases ht with rfl | rfl <;> rfl
  have hw := walk_flatMap (fun _ _ => true) encSyn (fun _ hs => ⟨isItem_encSyn hs, rfl⟩) subs
    ((subs.flatMap encSyn).length + 1 + 1 + 1 + 1) (by omega) hs
  simp only [checkVar, ht', ↓reduceIte, List.length_cons, List.drop_succ_cons, List.drop_zero, hw]
  rfl

theorem checkVar_encVar {v : VarItem} (h : varOk v = true) :
    checkVar (itemOf (encVar v)).1 (itemOf (encVar v)).2 = true := by
  cases v with
  | appCtx u => rfl
  | pcRq id subs =>
    simp only [varOk, Bool.and_eq_true] at h
    exact checkVar_pc (.inl rfl) h.1.2 ..
  | pcAc id res subs =>
    simp only [varOk, Bool.and_eq_true] at h
    exact checkVar_pc (.inr rfl) h.1.1.2 ..
  | userInfo subs =>
    simp only [varOk, Bool.and_eq_true] at h
    show walk checkUser (subs.flatMap encUser).length (subs.flatMap encUser) = true
    exact walk_flatMap checkUser encUser (fun s hs => by
      simp only [Bool.and_eq_true] at hs
      exact ⟨isItem_encUser hs.2, checkUser_encUser hs.2⟩) subs _ (Nat.le_refl _) h.1

/-- on a framed PDU the PDU length is exact by construction; what is left is the walk over the body -/
theorem lengthsExact_mkPdu (t r : UInt8) (body : Bytes) (h : body.length < 4294967296) :
    lengthsExact (mkPdu t r body) =
      (if t = 1 || t = 2 then Nat.ble 68 body.length && walk checkVar body.length (body.drop 68)
       else if t = 4 then walkPdv body.length body
       else body.length == 4) := by
  simp only [mkPdu, List.cons_append, List.nil_append, lengthsExact, be32_mk _ h, beq_self_eq_true, Bool.true_and]

theorem lengthsExact_assoc (t : UInt8) (ht : t = 1 ∨ t = 2) (ver : Nat) (c g : Bytes) (items : List VarItem)
    (hc : c.length ≤ 16) (hg : g.length ≤ 16) (hi : items.all varOk = true)
    (hl : (items.flatMap encVar).length < 4294967228) :
    lengthsExact (encAssoc t ver c g items) = true := by
  obtain ⟨body, he, hbl, hbd⟩ := encAssoc_mkPdu t ver c g items hc hg hi
  have hw := walk_flatMap checkVar encVar (fun _ hv => ⟨isItem_encVar hv, checkVar_encVar hv⟩) items
    (68 + (items.flatMap encVar).length) (by omega) hi
  have ht' : (t = 1 || t = 2) = true := by rcases ht with rfl | rfl <;> rfl
  rw [he, lengthsExact_mkPdu t 0 body (by omega), hbd, hbl, hw, if_pos ht']
  simp

theorem lengthsExact_encode (p : PDU) (h : encOk p = true) : lengthsExact (encode p) = true := by
  cases p with
  | rq ver called calling items =>
    simp only [encOk, Bool.and_eq_true, Nat.blt_eq] at h
    exact lengthsExact_assoc 1 (Or.inl rfl) ver called calling items (aeRqOk_length h.1.1.1.2)
      (aeRqOk_length h.1.1.2) h.1.2 h.2
  | ac ver called calling items =>
    simp only [encOk, Bool.and_eq_true, Nat.blt_eq] at h
    exact lengthsExact_assoc 2 (Or.inr rfl) ver called calling items (aeAcOk_length h.1.1.1.2)
      (aeAcOk_length h.1.1.2) h.1.2 h.2
  | rj r s d => simp [encode, lengthsExact, be32]
  | pdata pdvs =>
    simp only [encOk, Bool.and_eq_true, lt32_iff] at h
    rw [encode_pdata_mkPdu, lengthsExact_mkPdu 4 0 _ h.2]
    exact walkPdv_flatMap pdvs h.1 _ (Nat.le_refl _)
  | relRq => decide
  | relRp => decide
  | abort s r => simp [encode, lengthsExact, be32]

end PynetVerif.Pdu
