import PynetVerif.Lemmas.PairAbs
import PynetVerif.Lemmas.Search
import PynetVerif.Lemmas.Fsm
/-!
A finite set of abstract product states that contains the initial one, is closed under every
abstract transition, and in every state of which the two provider outcomes agree once both sides
have stopped: found by one kernel-evaluated worklist search from `init` (`Search.close`).
-/
namespace PynetVerif
namespace Abs

/-- a number that tells most abstract states apart: the search compares two states field by field
only when their keys agree (kernel evaluation compares number literals in one step, and takes a
structure apart by one `match` faster than by its projections).  Mixed radix, exact as long as
`fsm < 16`, the wire tokens are below 32 and a side's digits stay below `2 ^ 30`, which holds of every
state the search meets; nothing rests on that. -/
def key : APair → Nat
  | ⟨r, a, up⟩ =>
    let side : ASide → Nat
      | ⟨fsm, kill, conn, rel, rej, out⟩ =>
        out.foldl (fun n t => 32 * n + t) (fsm + 16 * (kill.toNat + 2 * (conn.toNat + 2 * (rel.toNat + 2 * rej.toNat))))
    side r + 2 ^ 30 * (2 * side a + up.toNat)

/-- the states seen, in lists by the requestor's state; within one, whole states are compared only
when their keys agree -/
def seenList : Search.Visited APair (List (List APair)) :=
  .lists 14 (fun p => p.r.fsm) (fun s q => Nat.beq (key s) (key q) && s == q)
    fun _ _ h => beq_iff_eq.mp (Bool.and_eq_true_iff.mp h).2

/-- the search from `init` ends, and `agreeEnded` holds of every state it returns (281 states; the
fuel 500 is room to spare).  `succs` is written `fun p => succs p` so that `simp only` can unfold it
and send the lookups of `Abs.dispatch` in the PS3.8 table through `Fsm.lookupG`. -/
theorem search_check :
    Search.check seenList (fun p => succs p) 500 init agreeEnded = true := by
  simp only [succs, sideSuccs, locals, fromPeer, onClose, disp, dispatch, ← Fsm.lookupG_eq]
  decide +kernel

def Reached : List APair := Search.reach seenList succs 500 init

theorem reached_spec : init ∈ Reached ∧ (∀ p ∈ Reached, ∀ q ∈ succs p, q ∈ Reached) ∧
    ∀ p ∈ Reached, agreeEnded p = true :=
  Search.reach_spec seenList search_check

end Abs
end PynetVerif
