import PynetVerif.Lemmas.Pair
/-!
The product step and the delivery in cases (`step_eq`, `deliver_cases`); the channel invariant: what
has been delivered to a side — read or still in its inbox — is exactly the image of the first `seen`
PDUs the other side has sent; causality across the wire (`caused`).
-/
namespace PynetVerif
open Dul Fsm

/-- the PDU events of the first `seen` PDUs a reactor has sent -/
def delivered (snd : St) (seen : Nat) : List Nat := wireEvts ((snd.sent.reverse.take seen).map wireOf)

namespace PairL

/-- the guards of `Pair.step` resolved -/
theorem step_eq (p : Pair) (st : PStep) :
    Pair.step p st = p ∨
    (∃ s, st = .r s ∧ Pair.allowed s = true ∧
      Pair.step p st = { p with r := Dul.step p.r s, up := p.up || (Dul.step p.r s).connected }) ∨
    (∃ s, st = .a s ∧ Pair.allowed s = true ∧ p.up = true ∧ Pair.step p st = { p with a := Dul.step p.a s }) ∨
    (p.up = true ∧ Pair.step p st = { p with
      a := (Pair.deliver p.r p.a p.rSeen p.rEof).1, rSeen := (Pair.deliver p.r p.a p.rSeen p.rEof).2.1,
      rEof := (Pair.deliver p.r p.a p.rSeen p.rEof).2.2 }) ∨
    (p.up = true ∧ Pair.step p st = { p with
      r := (Pair.deliver p.a p.r p.aSeen p.aEof).1, aSeen := (Pair.deliver p.a p.r p.aSeen p.aEof).2.1,
      aEof := (Pair.deliver p.a p.r p.aSeen p.aEof).2.2 }) := by
  cases st with
  | r s => cases hal : Pair.allowed s <;> simp [Pair.step, hal]
  | a s => cases hal : Pair.allowed s <;> cases hup : p.up <;> simp [Pair.step, hal, hup]
  | deliverRA => cases hup : p.up <;> simp [Pair.step, hup]
  | deliverAR => cases hup : p.up <;> simp [Pair.step, hup]

/-- the three outcomes of a delivery: the next PDU, EOF, nothing -/
theorem deliver_cases (snd rcv : St) (seen : Nat) (eof : Bool) :
    (∃ f, Pair.nth snd seen = some f ∧
      Pair.deliver snd rcv seen eof = (env (.peer (wireOf f)) rcv, seen + 1, eof)) ∨
    (Pair.nth snd seen = none ∧ Pair.closed snd = true ∧ eof = false ∧
      Pair.deliver snd rcv seen eof = (env (.peer .eof) rcv, seen, true)) ∨
    Pair.deliver snd rcv seen eof = (rcv, seen, eof) := by
  unfold Pair.deliver
  split
  · rename_i f hf; exact Or.inl ⟨f, hf, rfl⟩
  · rename_i hn
    split
    · rename_i hc
      simp only [Bool.and_eq_true, Bool.not_eq_true'] at hc
      exact Or.inr (Or.inl ⟨hn, hc.1, hc.2, rfl⟩)
    · exact Or.inr (Or.inr rfl)

theorem deliver_inbox (snd rcv : St) (seen : Nat) (eof : Bool) :
    ∃ l, (Pair.deliver snd rcv seen eof).1 = { rcv with inbox := rcv.inbox ++ l } := by
  rcases deliver_cases snd rcv seen eof with ⟨f, _, h⟩ | ⟨_, _, _, h⟩ | h <;> rw [h]
  · exact ⟨[_], rfl⟩
  · exact ⟨[_], rfl⟩
  · exact ⟨[], by simp⟩

/-- what a reactor's own steps and a longer inbox keep true of it, every product step keeps true of either side -/
theorem side_step {P : St → Prop} (hown : ∀ s st, Pair.allowed st = true → P s → P (Dul.step s st))
    (hin : ∀ (s : St) l, P s → P { s with inbox := s.inbox ++ l }) (p : Pair) (st : PStep) :
    (P p.r → P (Pair.step p st).r) ∧ (P p.a → P (Pair.step p st).a) := by
  rcases step_eq p st with e | ⟨s, _, hal, e⟩ | ⟨s, _, hal, _, e⟩ | ⟨_, e⟩ | ⟨_, e⟩ <;> rw [e]
  · exact ⟨id, id⟩
  · exact ⟨hown _ s hal, id⟩
  · exact ⟨id, hown _ s hal⟩
  · obtain ⟨l, hl⟩ := deliver_inbox p.r p.a p.rSeen p.rEof
    exact ⟨id, fun h => hl ▸ hin _ l h⟩
  · obtain ⟨l, hl⟩ := deliver_inbox p.a p.r p.aSeen p.aEof
    exact ⟨fun h => hl ▸ hin _ l h, id⟩

structure Chan (snd rcv : St) (seen : Nat) : Prop where
  le : seen ≤ snd.sent.length
  eq : lineEvts rcv = delivered snd seen

theorem delivered_prefix (snd : St) (seen : Nat) : delivered snd seen <+: sentEvts snd := by
  unfold delivered sentEvts wireEvts
  exact ((List.take_prefix _ _).map _).filterMap _

theorem Chan.snd_step {snd rcv : St} {seen : Nat} (h : Chan snd rcv seen) (st : Step)
    (hal : Pair.allowed st = true) : Chan (Dul.step snd st) rcv seen := by
  obtain ⟨new, hnew⟩ := (own_step snd st hal).sent
  refine ⟨?_, ?_⟩
  · rw [hnew, List.length_append]; have := h.le; omega
  · rw [h.eq]; unfold delivered
    rw [hnew, List.reverse_append, List.take_append_of_le_length (by rw [List.length_reverse]; exact h.le)]

theorem Chan.rcv_step {snd rcv : St} {seen : Nat} (h : Chan snd rcv seen) (st : Step)
    (hal : Pair.allowed st = true) : Chan snd (Dul.step rcv st) seen :=
  ⟨h.le, by rw [(own_step rcv st hal).line]; exact h.eq⟩

theorem Chan.deliver {snd rcv : St} {seen : Nat} (h : Chan snd rcv seen) (eof : Bool) :
    Chan snd (Pair.deliver snd rcv seen eof).1 (Pair.deliver snd rcv seen eof).2.1 := by
  rcases deliver_cases snd rcv seen eof with ⟨f, hf, hd⟩ | ⟨_, _, _, hd⟩ | hd <;> rw [hd]
  · have hf' : snd.sent.reverse[seen]? = some f := hf
    obtain ⟨hlt, _⟩ := List.getElem?_eq_some_iff.mp hf'
    refine ⟨by rw [List.length_reverse] at hlt; exact hlt, ?_⟩
    show lineEvts (env (.peer (wireOf f)) rcv) = _
    rw [peer_lineEvts, h.eq]
    unfold delivered
    rw [List.take_add_one, hf']
    simp only [Option.toList_some, List.map_append, wireEvts_append, List.map_cons, List.map_nil]
  · refine ⟨h.le, ?_⟩
    show lineEvts (env (.peer .eof) rcv) = _
    rw [peer_lineEvts, h.eq]
    simp [wireEvts]
  · exact h

theorem Chan.snd_deliver {snd rcv : St} {seen : Nat} (h : Chan snd rcv seen) (x : St) (n : Nat) (eof : Bool) :
    Chan (Pair.deliver x snd n eof).1 rcv seen := by
  obtain ⟨l, hl⟩ := deliver_inbox x snd n eof
  refine ⟨by rw [hl]; exact h.le, ?_⟩
  rw [h.eq]; unfold delivered; rw [hl]

structure Fifo (p : Pair) : Prop where
  ra : Chan p.r p.a p.rSeen
  ar : Chan p.a p.r p.aSeen

theorem fifo_init : Fifo Pair.init := by
  refine ⟨⟨Nat.le_refl _, ?_⟩, ⟨Nat.le_refl _, ?_⟩⟩ <;> decide

theorem fifo_step (p : Pair) (st : PStep) (h : Fifo p) : Fifo (Pair.step p st) := by
  rcases step_eq p st with e | ⟨s, _, hal, e⟩ | ⟨s, _, hal, _, e⟩ | ⟨_, e⟩ | ⟨_, e⟩ <;> rw [e]
  · exact h
  · exact ⟨h.ra.snd_step s hal, h.ar.rcv_step s hal⟩
  · exact ⟨h.ra.rcv_step s hal, h.ar.snd_step s hal⟩
  · exact ⟨h.ra.deliver p.rEof, h.ar.snd_deliver ..⟩
  · exact ⟨h.ra.snd_deliver .., h.ar.deliver p.aEof⟩

theorem mem_dispatchedPdus {s : St} {d : Dispatch} (hd : d ∈ s.log) (he : pduEv d.evt = true) :
    d.evt ∈ dispatchedPdus s := by
  unfold dispatchedPdus
  rw [List.mem_filter]
  exact ⟨List.mem_map.mpr ⟨d, List.mem_reverse.mpr hd, rfl⟩, he⟩

theorem mem_sentEvts {s : St} {e : Nat} (h : e ∈ sentEvts s) : ∃ f ∈ s.sent, ∃ alt, wireOf f = .pdu e alt := by
  unfold sentEvts wireEvts at h
  rw [List.mem_filterMap] at h
  obtain ⟨w, hw, hwe⟩ := h
  rw [List.mem_map] at hw
  obtain ⟨f, hf, hfw⟩ := hw
  refine ⟨f, List.mem_reverse.mp hf, ?_⟩
  subst hfw
  split at hwe
  · rename_i e' alt heq
    split at hwe
    · simp only [Option.some.injEq] at hwe; subst hwe; exact ⟨alt, heq⟩
    · cases hwe
  · cases hwe

/-- **a dispatched PDU event was caused by a logged action of the other side** -/
theorem caused {snd rcv : St} (hpre : dispatchedPdus rcv <+: sentEvts snd) (hl : LogOk snd)
    {d : Dispatch} (hd : d ∈ rcv.log) (he : pduEv d.evt = true) :
    ∃ f alt, wireOf f = .pdu d.evt alt ∧ ∃ d' ∈ snd.log, ∃ a, d'.action = some a ∧ mayEmit a f := by
  obtain ⟨f, hf, alt, hw⟩ := mem_sentEvts (hpre.subset (mem_dispatchedPdus hd he))
  exact ⟨f, alt, hw, hl.sent f hf⟩

end PairL
end PynetVerif
