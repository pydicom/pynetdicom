import PynetVerif.Lemmas.PairInv2
import PynetVerif.Lemmas.PairAbs
/-!
The abstraction map from the product model to its finite abstraction (`Lemmas/PairAbs.lean`) and the
simulation: every admissible step of the product without injected send failure is matched by zero or
one abstract transition — unless a local user aborts while a confirmation is outstanding; until one
does, the abstraction of the product state stays in any set of abstract states that holds `Abs.init` and is
closed under `Abs.succs` (`good_run`).
-/
namespace PynetVerif
open Dul Fsm PairL

namespace Abs

theorem collapse_head (e : Nat) (l : List Nat) : (collapse (e :: l)).head? = some e := by
  simp only [collapse]
  split
  · rename_i h; rw [h.2, h.1]
  · rfl

/-- removing the head of the uncollapsed list: the head token goes, or — P-DATA followed by P-DATA —
the collapsed list stays the same -/
theorem collapse_cons (e : Nat) (l : List Nat) :
    collapse (e :: l) = e :: collapse l ∨ (e = 10 ∧ collapse (e :: l) = collapse l) := by
  simp only [collapse]
  split
  · rename_i h; exact Or.inr ⟨h.1, rfl⟩
  · exact Or.inl rfl

theorem push_head (y : Nat) (ys : List Nat) (t : Nat) : (push (y :: ys) t).head? = some y := by
  unfold push; split <;> rfl

theorem collapse_snoc (l : List Nat) (t : Nat) : collapse (l ++ [t]) = push (collapse l) t := by
  induction l with
  | nil => simp [collapse, push]
  | cons x xs ih =>
    simp only [List.cons_append, collapse, ih]
    cases hc : collapse xs with
    | nil =>
      by_cases hx : x = 10 <;> by_cases ht : t = 10 <;> simp [push, hx, ht]
    | cons y ys =>
      rw [push_head]
      by_cases hxy : x = 10 ∧ y = 10
      · simp [hxy]
      · have h1 : ¬(x = 10 ∧ some y = some 10) := by
          intro h; exact hxy ⟨h.1, by simpa using h.2⟩
        have h2 : ¬(x = 10 ∧ (y :: ys).head? = some 10) := h1
        simp only [h1, h2, ↓reduceIte]
        unfold push
        rw [List.getLast?_cons_cons]
        by_cases h : t = 10 ∧ (y :: ys).getLast? = some 10
        · simp only [h, and_self, ↓reduceIte]
        · simp only [h, ↓reduceIte, List.cons_append]

/-- the PDU events a reactor has sent that have not been delivered yet -/
def undeliv (x : St) (seen : Nat) : List Nat := wireEvts ((x.sent.reverse.drop seen).map wireOf)

def alphaSide (x y : St) (seen : Nat) : ASide :=
  { fsm := x.fsm, kill := x.kill, conn := x.connected,
    rel := didOk x .AR_3 || didOk x .AR_4,
    rej := didOk x .AE_4 || didOk x .AE_8 || x.log.any (fun d => d.action == some .AE_6 && d.ok && d.next == 13),
    out := collapse (pending y ++ undeliv x seen) }

def alpha (p : Pair) : APair :=
  { r := alphaSide p.r p.a p.rSeen, a := alphaSide p.a p.r p.aSeen, up := p.up }

theorem outcome_alpha (x y : St) (seen : Nat) : outcome (alphaSide x y seen) = provOutcome x := rfl

theorem alphaSide_congr {x x' y y' : St} {seen seen' : Nat} (hf : x'.fsm = x.fsm) (hk : x'.kill = x.kill)
    (hc : x'.connected = x.connected) (hl : x'.log = x.log)
    (ho : pending y' ++ undeliv x' seen' = pending y ++ undeliv x seen) :
    alphaSide x' y' seen' = alphaSide x y seen := by
  unfold alphaSide didOk
  rw [hf, hk, hc, hl, ho]

/-- a delivery moves one PDU event from "not delivered" to the receiver's inbox: in flight all the same -/
theorem deliver_inflight (snd rcv : St) (seen : Nat) (eof : Bool) :
    pending (Pair.deliver snd rcv seen eof).1 ++ undeliv snd (Pair.deliver snd rcv seen eof).2.1 =
      pending rcv ++ undeliv snd seen := by
  rcases deliver_cases snd rcv seen eof with ⟨f, hf, hd⟩ | ⟨_, _, _, hd⟩ | hd <;> rw [hd]
  · obtain ⟨hlt, hget⟩ := List.getElem?_eq_some_iff.mp (show snd.sent.reverse[seen]? = some f from hf)
    show pending (env (.peer (wireOf f)) rcv) ++ undeliv snd (seen + 1) = _
    rw [pending_peer, List.append_assoc]
    congr 1
    unfold undeliv
    rw [List.drop_eq_getElem_cons hlt, hget, List.map_cons]
    exact (wireEvts_append [_] _).symm
  · show pending (env (.peer .eof) rcv) ++ undeliv snd seen = _
    rw [pending_peer]
    simp [wireEvts]

theorem undeliv_sent {x x' : St} {seen : Nat} {new : List Eff} (hs : x'.sent = new ++ x.sent)
    (hle : seen ≤ x.sent.length) : undeliv x' seen = undeliv x seen ++ wireEvts (new.reverse.map wireOf) := by
  unfold undeliv
  rw [hs, List.reverse_append, List.drop_append_of_le_length (by rw [List.length_reverse]; exact hle),
    List.map_append, wireEvts_append]

theorem aside_ext {x y : ASide} (h1 : x.fsm = y.fsm) (h2 : x.kill = y.kill) (h3 : x.conn = y.conn)
    (h4 : x.rel = y.rel) (h5 : x.rej = y.rej) (h6 : x.out = y.out) : x = y := by
  cases x; cases y; simp_all

theorem didOk_cons (x x' : St) (d : Dispatch) (hl : x'.log = d :: x.log) (A : Action) :
    didOk x' A = ((d.action == some A && d.ok) || didOk x A) := by
  unfold didOk; rw [hl]; rfl

theorem alpha_acted_self {x x' y : St} {e : Nat} {rest : List Nat} {a : Action} {alt b : Bool} {seen : Nat}
    (A : Acted x x' e rest a alt b) (hle : seen ≤ x.sent.length) :
    alphaSide x' y seen = applyAct (alphaSide x y seen) a (usedEffs a (effB a x.requestor false false).1)
      (effB a x.requestor false false).2 (x.connected || x.connectOk) := by
  obtain ⟨i1, i2, i3, i4⟩ := effs_indep a (mem_allActions a) x.requestor alt b A.altAE6
  have R := runP_table a x.requestor alt b x.connectOk x.connected
  apply aside_ext
  · show x'.fsm = _
    rw [A.fsm, i4]; rfl
  · show x'.kill = _
    rw [A.kill, i4]; rfl
  · show x'.connected = _
    rw [A.conn, R.conn, i2, i3]; rfl
  · show (didOk x' .AR_3 || didOk x' .AR_4) = _
    rw [didOk_cons x x' _ A.log, didOk_cons x x' _ A.log]
    simp only [Option.some_beq_some, Bool.and_true]
    show _ = ((didOk x .AR_3 || didOk x .AR_4) || a == .AR_3 || a == .AR_4)
    ac_rfl
  · show (didOk x' .AE_4 || didOk x' .AE_8 || x'.log.any (fun d => d.action == some .AE_6 && d.ok && d.next == 13)) = _
    rw [didOk_cons x x' _ A.log, didOk_cons x x' _ A.log, A.log]
    simp only [Option.some_beq_some, Bool.and_true, List.any_cons, i4]
    show _ = ((didOk x .AE_4 || didOk x .AE_8 || x.log.any (fun d => d.action == some .AE_6 && d.ok && d.next == 13)) ||
      a == .AE_4 || a == .AE_8 || (a == .AE_6 && (effB a x.requestor false false).2 == 13))
    ac_rfl
  · show collapse (pending y ++ undeliv x' seen) = _
    rw [undeliv_sent A.sent hle, R.sent]
    show _ = (match (sendEff (usedEffs a (effB a x.requestor false false).1)).bind tokOf with
      | some t => if x.connected = true then push (collapse (pending y ++ undeliv x seen)) t
                  else collapse (pending y ++ undeliv x seen)
      | none => collapse (pending y ++ undeliv x seen))
    rw [← i1]
    cases hse : sendEff (usedEffs a (effB a x.requestor alt b).1) with
    | none => simp [wireEvts]
    | some f =>
      obtain ⟨t, alt', hw, hpe, htok, _⟩ := wireOf_send f (sendEff_isSend hse)
      simp only [Option.bind_some, htok]
      cases hc : x.connected
      · simp [wireEvts]
      · simp only [↓reduceIte, List.reverse_cons, List.reverse_nil, List.nil_append, List.map_cons, List.map_nil]
        have : wireEvts [wireOf f] = [t] := by rw [hw]; simp [wireEvts, hpe]
        rw [this, ← List.append_assoc, collapse_snoc]

theorem pending_acted {x x' : St} {e : Nat} {rest : List Nat} {a : Action} {alt b : Bool}
    (A : Acted x x' e rest a alt b) (hq : x.eventQ = e :: rest) :
    pending x = (if pduEv e = true then [e] else []) ++ pending x' := by
  have R := runP_table a x.requestor alt b x.connectOk x.connected
  unfold pending
  rw [A.eventQ, A.inbox, hq, filter_pduEv_append_of_all _ _ (fun z hz => by rw [R.q17 z hz]; rfl)]
  cases hpe : pduEv e <;> simp [List.filter, hpe]

theorem acted_disp {x x' y : St} {e : Nat} {rest : List Nat} {a : Action} {alt b : Bool} {seen : Nat}
    (A : Acted x x' e rest a alt b) (hle : seen ≤ x.sent.length) (hl : lookup Spec.Ps38.table e x.fsm = some a) :
    alphaSide x' y seen ∈ disp (alphaSide x y seen) x.requestor e := by
  unfold disp
  rw [List.mem_filterMap]
  refine ⟨x.connected || x.connectOk, by cases (x.connected || x.connectOk) <;> simp, ?_⟩
  unfold dispatch
  show (match lookup Spec.Ps38.table e x.fsm with | none => none | some a => _) = _
  rw [hl, alpha_acted_self A hle]

theorem mem_sideSuccs {x y : ASide} {req : Bool} {q : ASide × ASide} (hk : x.kill = false)
    (h : q ∈ locals x y req ∨ q ∈ fromPeer x y req ∨ q ∈ onClose x y req ∨ q ∈ idleClose x y) :
    q ∈ sideSuccs x y req := by
  unfold sideSuccs
  rw [hk]
  simp only [Bool.false_eq_true, ↓reduceIte, List.mem_append]
  rcases h with h | h | h | h
  · exact Or.inl (Or.inl (Or.inl h))
  · exact Or.inl (Or.inl (Or.inr h))
  · exact Or.inl (Or.inr h)
  · exact Or.inr h

/-- a dispatched PDU event was the head of what is in flight from the peer; of a run of P-DATA the
abstraction keeps one token, which stays if more P-DATA follows -/
theorem sim_pdu {x x' y : St} {e : Nat} {rest : List Nat} {a : Action} {alt b : Bool} {ySeen : Nat} {req : Bool}
    (A : Acted x x' e rest a alt b) (hq : x.eventQ = e :: rest) (hpe : pduEv e = true) {X X' : ASide}
    (hmem : X' ∈ disp X req e) : (X', alphaSide y x' ySeen) ∈ fromPeer X (alphaSide y x ySeen) req := by
  have hout : (alphaSide y x ySeen).out = collapse (e :: (pending x' ++ undeliv y ySeen)) := by
    show collapse (pending x ++ undeliv y ySeen) = _
    rw [pending_acted A hq, hpe]; rfl
  have hy' : alphaSide y x' ySeen = { alphaSide y x ySeen with out := collapse (pending x' ++ undeliv y ySeen) } := rfl
  unfold fromPeer
  rcases collapse_cons e (pending x' ++ undeliv y ySeen) with hc | ⟨he10, hc⟩
  · rw [hout, hc]
    simp only [List.mem_flatMap]
    refine ⟨_, hmem, ?_⟩
    rw [hy']
    split <;> simp
  · subst he10
    have hhead := collapse_head 10 (pending x' ++ undeliv y ySeen)
    rw [hc] at hhead
    cases hcm : collapse (pending x' ++ undeliv y ySeen) with
    | nil => rw [hcm] at hhead; cases hhead
    | cons t rest' =>
      rw [hcm] at hhead
      cases Option.some.inj hhead
      have hsame : alphaSide y x' ySeen = alphaSide y x ySeen := by
        refine aside_ext rfl rfl rfl rfl rfl ?_
        show collapse (pending x' ++ undeliv y ySeen) = _
        rw [hout, hc]
      rw [hout, hc, hcm, hsame]
      simp only [List.mem_flatMap]
      exact ⟨_, hmem, by simp⟩

theorem lookup_15_awaiting : ∀ st ∈ [5, 7, 11], lookup Spec.Ps38.table 15 st = some .AA_1 := by decide

theorem local_event : ∀ e < 20, 1 ≤ e ∧ pduEv e = false ∧ e ≠ 17 ∧ e ≠ 19 → e ∈ localEvents := by decide

theorem inbox_eof_head {x : St} {eof : Bool} (hbox : InboxEof x eof) (hh : x.inbox.head? = some .eof) :
    eof = true ∧ x.inbox = [.eof] := by
  obtain ⟨l, hl, hi⟩ := hbox
  cases l with
  | nil =>
    cases eof
    · rw [hi] at hh; cases hh
    · exact ⟨rfl, by rw [hi]; rfl⟩
  | cons w ws =>
    exfalso
    rw [hi] at hh
    simp only [List.cons_append, List.head?_cons, Option.some.injEq] at hh
    exact hl w (List.mem_cons_self ..) hh

/-- a dispatched Evt17 has its justification (`K`), and each is a reason for the abstract side to see
the connection closed -/
theorem sim_close {x y : St} {xSeen ySeen : Nat} {yEof : Bool} {rest : List Nat} (hx : SInv x)
    (hbox : InboxEof x yEof) (heof : EofOk y ySeen yEof) (hq : x.eventQ = 17 :: rest) (hk : x.kill = false)
    {X' : ASide} (hmem : X' ∈ disp (alphaSide x y xSeen) x.requestor 17) :
    (X', alphaSide y x ySeen) ∈ onClose (alphaSide x y xSeen) (alphaSide y x ySeen) x.requestor := by
  have hguard : (!(alphaSide x y xSeen).conn || (alphaSide x y xSeen).fsm == 4 ||
      (closed (alphaSide y x ySeen) && (alphaSide y x ySeen).out.isEmpty)) = true := by
    rcases hx.core.k hk [] rest (by rw [hq]; rfl) with d | d | ⟨d1, d2⟩
    · show (!x.connected || _ || _) = true; rw [d]; rfl
    · show (_ || x.fsm == 4 || _) = true; rw [d]; simp
    · -- EOF read: the peer has closed for good, and nothing of what it sent is still in flight
      obtain ⟨hy1, hy2⟩ := inbox_eof_head hbox d1
      obtain ⟨c1, _, c3⟩ := heof hy1
      have hp : pending x = [] := by
        unfold pending
        rw [hq, hy2, List.filter_eq_nil_iff.mpr]
        · rfl
        · intro z hz
          rcases List.mem_cons.mp hz with h | h
          · subst h; decide
          · simp [d2 z h]
      have hu : undeliv y ySeen = [] := by
        unfold undeliv
        rw [c3, List.drop_eq_nil_of_le (by simp)]; rfl
      have hout0 : (alphaSide y x ySeen).out = [] := by
        show collapse (pending x ++ undeliv y ySeen) = []
        rw [hp, hu]; rfl
      rw [show closed (alphaSide y x ySeen) = true from c1, hout0]; simp
  unfold onClose
  rw [hguard]
  simp only [↓reduceIte, List.mem_map]
  exact ⟨_, hmem, rfl⟩

theorem side_sim_acted (x y : St) (xSeen ySeen : Nat) (yEof : Bool) (hx : SInv x)
    (hle : xSeen ≤ x.sent.length) (hbox : InboxEof x yEof) (heof : EofOk y ySeen yEof)
    {e : Nat} {rest : List Nat} {a : Action} {alt b : Bool} (hq : x.eventQ = e :: rest) (hk : x.kill = false)
    (hl : lookup Spec.Ps38.table e x.fsm = some a) {x' : St} (A : Acted x x' e rest a alt b) :
    (alphaSide x' y xSeen, alphaSide y x' ySeen) ∈ sideSuccs (alphaSide x y xSeen) (alphaSide y x ySeen) x.requestor ∨
    abortedAwaiting x' = true := by
  have hmem := acted_disp (y := y) A hle hl
  have hkα : (alphaSide x y xSeen).kill = false := hk
  cases hpe : pduEv e with
  | true => exact Or.inl (mem_sideSuccs hkα (Or.inr (Or.inl (sim_pdu A hq hpe hmem))))
  | false =>
    -- no PDU event: what is in flight towards `x` is the same
    have hy : alphaSide y x' ySeen = alphaSide y x ySeen :=
      alphaSide_congr rfl rfl rfl rfl (by rw [pending_acted A hq, hpe]; rfl)
    rw [hy]
    by_cases h17 : e = 17
    · subst h17
      exact Or.inl (mem_sideSuccs hkα (Or.inr (Or.inr (Or.inl (sim_close hx hbox heof hq hk hmem)))))
    · have hrange := (rowOk2 hl).range
      have hloc := local_event e (by omega) ⟨hrange.1, hpe, h17, fun h => hx.core.n19 e (by rw [hq]; simp) h⟩
      by_cases hab : (e == 15 && awaiting x.fsm) = true
      · -- the user aborts while a confirmation is outstanding: the one step the abstraction leaves out
        right
        simp only [Bool.and_eq_true, beq_iff_eq] at hab
        obtain ⟨he, haw⟩ := hab
        subst he
        have h3 : x.fsm ∈ [5, 7, 11] := by simpa [awaiting, or_assoc] using haw
        rw [lookup_15_awaiting x.fsm h3] at hl
        cases hl
        unfold abortedAwaiting
        rw [A.log]
        simp only [List.any_cons, Bool.or_eq_true, Bool.and_eq_true]
        exact Or.inl ⟨by simp, by simpa [awaiting] using haw⟩
      · refine Or.inl (mem_sideSuccs hkα (Or.inl ?_))
        unfold locals
        simp only [List.mem_flatMap]
        refine ⟨e, hloc, ?_⟩
        rw [show (e == 15 && awaiting (alphaSide x y xSeen).fsm) = false by
          show (e == 15 && awaiting x.fsm) = false; simpa using hab]
        simp only [Bool.false_eq_true, ↓reduceIte, List.mem_map]
        exact ⟨_, hmem, rfl⟩

/-- **one side's step is matched by zero or one abstract transition of that side**, unless its user
aborts while a confirmation is outstanding -/
theorem side_sim (x y : St) (st : Step) (xSeen ySeen : Nat) (yEof : Bool) (hx : SInv x)
    (hal : Pair.allowed st = true) (hle : xSeen ≤ x.sent.length) (hbox : InboxEof x yEof)
    (heof : EofOk y ySeen yEof) :
    (alphaSide (Dul.step x st) y xSeen = alphaSide x y xSeen ∧
      alphaSide y (Dul.step x st) ySeen = alphaSide y x ySeen) ∨
    (alphaSide (Dul.step x st) y xSeen, alphaSide y (Dul.step x st) ySeen) ∈
      sideSuccs (alphaSide x y xSeen) (alphaSide y x ySeen) x.requestor ∨
    abortedAwaiting (Dul.step x st) = true := by
  cases st with
  | env e =>
    left
    cases e with
    | peer w => cases hal
    | _ => exact ⟨rfl, rfl⟩
  | a =>
    show (alphaSide (iterA x) y xSeen = _ ∧ alphaSide y (iterA x) ySeen = _) ∨ _ ∈ _ ∨ abortedAwaiting (iterA x) = true
    have hy : alphaSide y (iterA x) ySeen = alphaSide y x ySeen :=
      alphaSide_congr rfl rfl rfl rfl (by rw [iterA_pending x])
    rcases iterA_cases x with hi | ⟨pre, ex, i, r, c, _, hs, hk, hi⟩
    · rw [hi]; exact Or.inl ⟨rfl, rfl⟩
    · have hx' : c = x.connected → alphaSide (iterA x) y xSeen = alphaSide x y xSeen := by
        intro hc; rw [hi, hc]; rfl
      cases hs with
      | close h13 hc =>
        -- the idle close of Sta13
        right; left
        show (alphaSide (iterA x) y xSeen, alphaSide y (iterA x) ySeen) ∈ _
        rw [hy]
        apply mem_sideSuccs (show (alphaSide x y xSeen).kill = false from hk)
        right; right; right
        unfold idleClose
        rw [show ((alphaSide x y xSeen).fsm == 13 && (alphaSide x y xSeen).conn) = true by
          show (x.fsm == 13 && x.connected) = true
          rw [h13, hc]; rfl]
        simp only [↓reduceIte, List.mem_singleton, Prod.mk.injEq, and_true]
        rw [hi]; rfl
      | _ => exact Or.inl ⟨hx' rfl, hy⟩
  | b =>
    show (alphaSide (iterB x) y xSeen = _ ∧ alphaSide y (iterB x) ySeen = _) ∨ _ ∈ _ ∨ abortedAwaiting (iterB x) = true
    rcases iterB_acted x hx with hi | hi | ⟨e, rest, a, alt, b, hq, hk, hl, A⟩
    · left; rw [hi]; exact ⟨rfl, rfl⟩
    · left; rw [hi]; exact ⟨rfl, rfl⟩
    · exact Or.inr (side_sim_acted x y xSeen ySeen yEof hx hle hbox heof hq hk hl A)

/-- a delivery is invisible to the abstraction -/
theorem alpha_deliver (snd rcv : St) (seen oseen : Nat) (eof : Bool) :
    alphaSide snd (Pair.deliver snd rcv seen eof).1 (Pair.deliver snd rcv seen eof).2.1 = alphaSide snd rcv seen ∧
    alphaSide (Pair.deliver snd rcv seen eof).1 snd oseen = alphaSide rcv snd oseen := by
  obtain ⟨l, hl⟩ := deliver_inbox snd rcv seen eof
  exact ⟨alphaSide_congr rfl rfl rfl rfl (deliver_inflight snd rcv seen eof), by rw [hl]; rfl⟩

theorem sim_step (p : Pair) (st : PStep) (h : PInv p) :
    alpha (Pair.step p st) = alpha p ∨ alpha (Pair.step p st) ∈ succs (alpha p) ∨
    abortedAwaiting (Pair.step p st).r = true ∨ abortedAwaiting (Pair.step p st).a = true := by
  rcases step_eq p st with e | ⟨s, _, hal, e⟩ | ⟨s, _, hal, hup, e⟩ | ⟨_, e⟩ | ⟨_, e⟩ <;> rw [e]
  · exact Or.inl rfl
  · rcases side_sim p.r p.a s p.rSeen p.aSeen p.aEof h.r hal h.fifo.ra.le h.boxR h.eofA with ⟨h1, h2⟩ | hs | hab
    · left
      have hc : (Dul.step p.r s).connected = p.r.connected := congrArg ASide.conn h1
      have hup : (p.up || (Dul.step p.r s).connected) = p.up := by
        rw [hc]
        cases hcc : p.r.connected
        · simp
        · rw [h.upc hcc]; rfl
      show APair.mk (alphaSide (Dul.step p.r s) p.a p.rSeen) (alphaSide p.a (Dul.step p.r s) p.aSeen)
        (p.up || (Dul.step p.r s).connected) = alpha p
      rw [h1, h2, hup]; rfl
    · rw [h.rreq] at hs
      exact Or.inr (Or.inl (List.mem_append.mpr (Or.inl (List.mem_map.mpr ⟨_, hs, rfl⟩))))
    · exact Or.inr (Or.inr (Or.inl hab))
  · rcases side_sim p.a p.r s p.aSeen p.rSeen p.rEof h.a hal h.fifo.ar.le h.boxA h.eofR with ⟨h1, h2⟩ | hs | hab
    · left
      show APair.mk (alphaSide p.r (Dul.step p.a s) p.rSeen) (alphaSide (Dul.step p.a s) p.r p.aSeen) p.up = alpha p
      rw [h1, h2]; rfl
    · rw [h.areq] at hs
      refine Or.inr (Or.inl (List.mem_append.mpr (Or.inr ?_)))
      rw [show (alpha p).up = true from hup]
      exact List.mem_map.mpr ⟨_, hs, by show APair.mk _ _ true = APair.mk _ _ p.up; rw [hup]⟩
    · exact Or.inr (Or.inr (Or.inr hab))
  · left
    obtain ⟨h1, h2⟩ := alpha_deliver p.r p.a p.rSeen p.aSeen p.rEof
    show APair.mk (alphaSide p.r _ _) (alphaSide _ p.r p.aSeen) p.up = alpha p
    rw [h1, h2]; rfl
  · left
    obtain ⟨h1, h2⟩ := alpha_deliver p.a p.r p.aSeen p.rSeen p.aEof
    show APair.mk (alphaSide _ p.a p.rSeen) (alphaSide p.a _ _) p.up = alpha p
    rw [h1, h2]; rfl

/-- logs only grow: aborting while a confirmation is outstanding is never undone -/
theorem aborted_step (p : Pair) (st : PStep) :
    (abortedAwaiting p.r = true → abortedAwaiting (Pair.step p st).r = true) ∧
    (abortedAwaiting p.a = true → abortedAwaiting (Pair.step p st).a = true) := by
  have mono : ∀ {s t : St}, (∃ new, t.log = new ++ s.log) → abortedAwaiting s = true → abortedAwaiting t = true := by
    rintro s t ⟨new, hl⟩ h
    unfold abortedAwaiting at h ⊢
    rw [hl, List.any_append, h]; simp
  exact side_step (P := fun s => abortedAwaiting s = true) (fun s st hal => mono (own_step s st hal).log) (fun _ _ => id) p st

/-- the invariant of the agreement proof, for a set `R` of abstract states closed under `succs` -/
structure Good (R : List APair) (p : Pair) : Prop where
  inv : PInv p
  abs : alpha p ∈ R ∨ abortedAwaiting p.r = true ∨ abortedAwaiting p.a = true

theorem good_step {R : List APair} (hcl : ∀ p ∈ R, ∀ q ∈ succs p, q ∈ R) (p : Pair) (st : PStep)
    (hok : Pair.stepOk p st = true) (hnb : Pair.noBreak st = true) (h : Good R p) : Good R (Pair.step p st) := by
  refine ⟨pinv_step p st hok hnb h.inv, ?_⟩
  rcases h.abs with hR | hab | hab
  · rcases sim_step p st h.inv with hs | hs | hs
    · left; rw [hs]; exact hR
    · left; exact hcl _ hR _ hs
    · exact Or.inr hs
  · exact Or.inr (Or.inl ((aborted_step p st).1 hab))
  · exact Or.inr (Or.inr ((aborted_step p st).2 hab))

theorem good_run {R : List APair} (hi : init ∈ R) (hcl : ∀ p ∈ R, ∀ q ∈ succs p, q ∈ R) (sched : List PStep)
    (hadm : Pair.runAdm Pair.init sched = true) : Good R (Pair.run Pair.init sched) :=
  runAdm_induct (good_step hcl) sched _ hadm ⟨pinv_init, Or.inl hi⟩

end Abs
end PynetVerif
