import PynetVerif.Model.PduWf
import PynetVerif.Lemmas.Framing
import PynetVerif.Lemmas.Strip
/-! Byte-level lemmas for the PDU codec: fixed-width integers, `str.strip`, UID fields, `mapE`, the fuel
of the byte loops, and what the list-level lemmas need of an item encoder (`IsItem`, `itemOf`). -/
namespace PynetVerif.Pdu
open PynetVerif.Framing (be32 be32_mk)

theorem u8_toNat {n : Nat} (h : n < 256) : (u8 n).toNat = n := by
  simp only [u8, UInt8.toNat_ofNat']; omega

theorem toNat_u8 (c : UInt8) : u8 c.toNat = c := by simp [u8]

theorem be16_u16 {n : Nat} (h : n < 65536) : be16 (u8 (n / 256)) (u8 (n % 256)) = n := by
  simp only [be16, u8, UInt8.toNat_ofNat']; omega

theorem be16_lt (h l : UInt8) : be16 h l < 65536 := by
  have := h.toNat_lt; have := l.toNat_lt; simp only [be16]; omega

theorem be32_u32 {n : Nat} (h : n < 4294967296) :
    be32 (u8 (n / 16777216)) (u8 (n / 65536 % 256)) (u8 (n / 256 % 256)) (u8 (n % 256)) = n :=
  be32_mk n h

theorem be32_lt (a b c d : UInt8) : be32 a b c d < 4294967296 := (Framing.be32_inv a b c d).2.2.2.2

theorem bne_toNat_zero (c : UInt8) : (c.toNat != 0) = (c != 0) := by
  by_cases hz : c = 0
  · subst hz; rfl
  · have h1 : c.toNat ≠ 0 := fun hc => hz (UInt8.toNat_inj.mp (by simpa using hc))
    rw [bne_iff_ne.mpr hz, bne_iff_ne.mpr h1]

theorem bne_u8_zero {n : Nat} (h : n < 256) : (u8 n != 0) = (n != 0) := by
  rw [← bne_toNat_zero, u8_toNat h]

@[simp] theorem u16_length (n : Nat) : (u16 n).length = 2 := rfl
@[simp] theorem u32_length (n : Nat) : (u32 n).length = 4 := rfl

theorem blt_false {a b : Nat} (h : b ≤ a) : Nat.blt a b = false := by
  rw [Bool.eq_false_iff, ne_eq, Nat.blt_eq]; omega

theorem lt8_iff {n : Nat} : lt8 n = true ↔ n < 256 := by simp [lt8]
theorem lt16_iff {n : Nat} : lt16 n = true ↔ n < 65536 := by simp [lt16]
theorem lt32_iff {n : Nat} : lt32 n = true ↔ n < 4294967296 := by simp [lt32]

/-- the laws of strip are in `Lemmas/Strip.lean` -/
theorem pyStrip_eq (b : Bytes) : pyStrip b = Policy.strip isWs b := by
  have hL : ∀ b : Bytes, stripL b = b.dropWhile isWs := fun b => by
    induction b with
    | nil => rfl
    | cons c cs ih => simp only [stripL, List.dropWhile_cons, ih]
  have hR : ∀ b : Bytes, stripR b = Policy.rstrip isWs b := fun b => by
    induction b with
    | nil => rfl
    | cons c cs ih => rw [stripR, ih, Policy.rstrip_cons]; cases Policy.rstrip isWs cs <;> rfl
  rw [pyStrip, hL, hR]; rfl

theorem pyStrip_ljust (n : Nat) (v : Bytes) : pyStrip (ljust n v) = pyStrip v := by
  rw [pyStrip_eq, pyStrip_eq, ljust]
  exact Policy.strip_pad [] v _ rfl (by simp [isWs])

theorem headOk_iff (u : Bytes) : headOk u = true ↔ ∀ x ∈ u.head?, isWs x = false := by
  cases u <;> simp [headOk]
theorem lastOk_iff : ∀ u : Bytes, lastOk u = true ↔ ∀ x ∈ u.getLast?, isWs x = false
  | [] => by simp [lastOk]
  | [c] => by simp [lastOk]
  | c :: d :: cs => by rw [lastOk, List.getLast?_cons_cons, lastOk_iff (d :: cs)]; exact nofun
theorem pyStrip_of_trimmed {u : Bytes} (h : trimmed u = true) : pyStrip u = u := by
  rw [trimmed, Bool.and_eq_true, headOk_iff, lastOk_iff] at h
  rw [pyStrip_eq]; exact Policy.strip_eq_self h.1 h.2
theorem trimmed_pyStrip (b : Bytes) : trimmed (pyStrip b) = true := by
  rw [trimmed, Bool.and_eq_true, headOk_iff, lastOk_iff, pyStrip_eq]
  exact Policy.strip_ends isWs b

theorem isAscii_cons (c : UInt8) (cs : Bytes) : isAscii (c :: cs) = (decide (c.toNat < 128) && isAscii cs) := by
  simp [isAscii]

theorem isAscii_append (a b : Bytes) : isAscii (a ++ b) = (isAscii a && isAscii b) := by
  simp [isAscii]

theorem isAscii_replicate_space (k : Nat) : isAscii (List.replicate k 0x20) = true := by
  simp [isAscii]

theorem all_pyStrip {p : UInt8 → Bool} {b : Bytes} (h : b.all p = true) : (pyStrip b).all p = true :=
  List.all_eq_true.mpr fun x hx => List.all_eq_true.mp h x (Policy.mem_strip (pyStrip_eq b ▸ hx))

theorem isAscii_pyStrip {b : Bytes} (h : isAscii b = true) : isAscii (pyStrip b) = true := all_pyStrip h

theorem length_pyStrip (b : Bytes) : (pyStrip b).length ≤ b.length :=
  (pyStrip_eq b ▸ Policy.strip_sublist isWs b).length_le

theorem stripNul_of_not_endsNul {u : Bytes} (h : endsNul u = false) : stripNul u = u := by
  simp [stripNul, h]

theorem isAscii_dropLast {b : Bytes} (h : isAscii b = true) : isAscii b.dropLast = true := by
  simp only [isAscii, List.all_eq_true] at h ⊢
  intro c hc
  exact h c (List.dropLast_subset _ hc)

theorem isAscii_stripNul {b : Bytes} (h : isAscii b = true) : isAscii (stripNul b) = true := by
  simp only [stripNul]; split
  · exact isAscii_dropLast h
  · exact h

theorem decUid_ok {v : Bool} {u : Bytes} (h : uidOk v u = true) : decUid v u = .ok u := by
  simp only [uidOk, uidB, Bool.and_eq_true, Bool.not_eq_true', Bool.or_eq_true, Nat.ble_eq] at h
  obtain ⟨⟨⟨ha, ht⟩, hl⟩, hn⟩ := h
  simp only [decUid, stripNul_of_not_endsNul hn, ha, ↓reduceIte, pyStrip_of_trimmed ht]
  rcases hl with hl | hl
  · simp [hl]
  · simp [blt_false hl]

theorem decUid_bounded {v : Bool} {raw u : Bytes} : decUid v raw = .ok u → uidB v u = true := by
  -- one goal per branch of `decUid`, with the tests passed on the way as hypotheses; `h` is false on those
  -- that return an error
  fun_cases decUid v raw <;> intro h <;> simp only [Except.ok.injEq, reduceCtorEq] at h
  subst h
  rename_i ha w hl
  have h1 : isAscii w = true := isAscii_pyStrip ha
  have h2 : trimmed w = true := trimmed_pyStrip _
  simp only [uidB, h1, h2, Bool.true_and]
  cases v
  · rfl
  · simpa using hl

theorem mapE_map_ok {α β : Type} (f : β → Except Err α) (e : α → β) (xs : List α)
    (h : ∀ x ∈ xs, f (e x) = .ok x) : mapE f (xs.map e) = .ok xs := by
  induction xs with
  | nil => rfl
  | cons x xs ih =>
    simp only [List.map_cons, mapE, h x (by simp)]
    rw [ih (fun y hy => h y (by simp [hy]))]

theorem mapE_all {α β : Type} {f : α → Except Err β} {P : β → Bool}
    (hf : ∀ x y, f x = .ok y → P y = true) {xs : List α} {ys : List β} (h : mapE f xs = .ok ys) : ys.all P = true := by
  fun_induction mapE f xs generalizing ys <;> cases h
  · rfl
  · rename_i hy _ hys ih
    simp only [List.all_cons, hf _ _ hy, ih hys, Bool.and_self]

/-- A loop over bytes that recurses only on strictly shorter input never runs out of a fuel that is at
least the input length: `step` says that one round of `F` depends on the earlier rounds only through
their values on shorter inputs. -/
theorem fuel_irrelevant {β : Type} {F : Nat → Bytes → β} (hnil : ∀ f, F f [] = F 0 [])
    (step : ∀ f g b, (∀ c : Bytes, c.length < b.length → F f c = F g c) → F (f + 1) b = F (g + 1) b) :
    ∀ (f g : Nat) (b : Bytes), b.length ≤ f → b.length ≤ g → F f b = F g b := by
  intro f
  induction f with
  | zero =>
    intro g b h _
    cases b with
    | nil => exact (hnil g).symm
    | cons _ _ => cases h
  | succ f ih =>
    intro g b hf hg
    cases g with
    | zero =>
      cases b with
      | nil => exact hnil _
      | cons _ _ => cases hg
    | succ g => exact step f g b (fun c hc => ih g c (by omega) (by omega))

theorem splitItems_fuel : ∀ (f g : Nat) (b : Bytes), b.length ≤ f → b.length ≤ g → splitItems f b = splitItems g b :=
  fuel_irrelevant (fun f => by cases f <;> rfl) fun f g b ih => by
    match b with
    | t :: r :: h :: l :: rest =>
      simp only [splitItems]
      rw [ih (rest.drop (be16 h l)) (by simp only [List.length_drop, List.length_cons]; omega)]
    | [] | [_] | [_, _] | [_, _, _] => rfl

/-! One item on the wire is `tlv t r body`; `_generate_items` hands `(t, body)` to the item decoder.  All
that the list-level lemmas need to know of an encoder is that each value becomes one item (`IsItem`);
what the item decoder is given is then `itemOf` of the encoded bytes, which computes by `rfl` for each
constructor. -/

theorem tlv_length (t r : UInt8) (body : Bytes) : (tlv t r body).length = 4 + body.length := by
  simp [tlv]; omega

def itemOf (b : Bytes) : UInt8 × Bytes := (b.headD 0, b.drop 4)

def IsItem (b : Bytes) : Prop := ∃ t r body, b = tlv t r body ∧ body.length < 65536

theorem isItem_of_length {t r : UInt8} {body : Bytes} (h : (tlv t r body).length < 65540) : IsItem (tlv t r body) :=
  ⟨t, r, body, rfl, by rw [tlv_length] at h; omega⟩

theorem split_tlv (t r : UInt8) (body rest : Bytes) (h : body.length < 65536) :
    split (tlv t r body ++ rest) =
      match split rest with
      | .ok tl => .ok ((t, body) :: tl)
      | .error e => .error e := by
  have hb := be16_u16 h
  simp only [split, tlv, u16, List.cons_append, List.length_cons, List.nil_append, splitItems, hb,
    List.length_append, List.take_left, List.drop_left]
  have : ¬ (body.length + rest.length < body.length) := by omega
  simp only [this, ↓reduceIte]
  rw [splitItems_fuel (body.length + rest.length + 1 + 1 + 1) rest.length rest (by omega) (Nat.le_refl _)]
  cases splitItems rest.length rest <;> rfl

theorem split_nil : split [] = .ok [] := rfl

theorem split_flatMap {α : Type} (enc : α → Bytes) (xs : List α) (h : ∀ x ∈ xs, IsItem (enc x)) :
    split (xs.flatMap enc) = .ok (xs.map fun x => itemOf (enc x)) := by
  induction xs with
  | nil => rfl
  | cons x xs ih =>
    obtain ⟨t, r, body, he, hl⟩ := h x (by simp)
    simp only [List.flatMap_cons, List.map_cons, he, split_tlv t r body _ hl, ih (fun y hy => h y (by simp [hy]))]
    rfl

theorem decSubs_flatMap {α : Type} (enc : α → Bytes) (dec : UInt8 × Bytes → Except Err α) {ok : α → Bool}
    (hok : ∀ x, ok x = true → IsItem (enc x) ∧ dec (itemOf (enc x)) = .ok x) (xs : List α) (h : xs.all ok = true) :
    decSubs dec (xs.flatMap enc) = .ok xs := by
  have h := List.all_eq_true.mp h
  simp only [decSubs, split_flatMap enc xs (fun x hx => (hok x (h x hx)).1)]
  exact mapE_map_ok dec _ xs (fun x hx => (hok x (h x hx)).2)

theorem decSubs_all {α : Type} {dec : UInt8 × Bytes → Except Err α} {P : α → Bool}
    (hf : ∀ x y, dec x = .ok y → P y = true) {b : Bytes} {ys : List α} : decSubs dec b = .ok ys → ys.all P = true := by
  fun_cases decSubs dec b <;> intro h
  · cases h
  · exact mapE_all hf h
end PynetVerif.Pdu
