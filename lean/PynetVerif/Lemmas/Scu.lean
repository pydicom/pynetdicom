import PynetVerif.Spec.Scu
/-!
Both response generators are receive loops (`RecvLoop`); `stops`, `safe` and `meets` hold of every
such loop, and the C24 theorems about the generators are their instances.
-/
namespace PynetVerif.Scu
open PynetVerif.Status PynetVerif.Spec.Scu

theorem finalState_nil (s : St) : finalState s [] = s := rfl
theorem finalState_cons (s : St) (e : Ev) (es : List Ev) :
    finalState s (e :: es) = finalState (s.step e) es := rfl

theorem finalState_append (s : St) (a b : List Ev) :
    finalState s (a ++ b) = finalState (finalState s a) b := by
  simp [finalState, List.foldl_append]

theorem observe_append (s : St) (a b : List Ev) :
    observe s (a ++ b) = observe s a ++ observe (finalState s a) b := by
  induction a generalizing s with
  | nil => rfl
  | cons e es ih => simp [observe, finalState_cons, ih, List.append_assoc]

theorem aborts_append (a b : List Ev) : aborts (a ++ b) = aborts a + aborts b := by
  simp [aborts, List.countP_append]
theorem recvs_append (a b : List Ev) : recvs (a ++ b) = recvs a + recvs b := by
  simp [recvs, List.countP_append]
theorem raised_append (a b : List Ev) : raised (a ++ b) = (raised a || raised b) := by
  simp [raised, List.any_append]

/-- the state inside both loops: reactor paused by the prologue, lock free -/
def sLoop : St := ⟨false, false⟩

/-- a step of a receive loop; `sLoop` is the loop's invariant state -/
structure Neutral (es : List Ev) : Prop where
  state : finalState sLoop es = sLoop
  -- as a Boolean, so that it holds by computation of an explicit trace with free status and identifier
  lockFree : (observe sLoop es).all (fun y => !y.lockHeld) = true
  recvs : recvs es = 1
  aborts : aborts es = 0
  raised : raised es = false

/-- the regular end of a generator: its last item `y` and its `n` aborts -/
structure Ends (es : List Ev) (y : Yield) (n : Nat) : Prop where
  observe : observe sLoop es = [y]
  lockFree : y.lockHeld = false
  running : y.paused = false
  state : finalState sLoop es = St.init
  recvs : recvs es = 1
  aborts : aborts es = n
  raised : raised es = false

/-- a receive loop run from `sLoop`; `halt none`: the peer has fallen silent -/
structure RecvLoop (w : List PeerMsg → List Ev) (c : PeerMsg → Bool) (step : PeerMsg → List Ev)
    (halt : Option PeerMsg → List Ev) : Prop where
  cons : ∀ m rest, w (m :: rest) = if c m then step m ++ w rest else halt (some m)
  silent : w [] = halt none
  neutral : ∀ m, c m = true → Neutral (step m)

/-- the messages a loop with continuation test `c` consumes: the continuing prefix and the message
that stops it (nothing if the peer falls silent) -/
def consumed (c : PeerMsg → Bool) (peer : List PeerMsg) : List PeerMsg :=
  peer.takeWhile c ++ (peer.dropWhile c).head?.toList

theorem steps_facts (step : PeerMsg → List Ev) (l : List PeerMsg) (h : ∀ m ∈ l, Neutral (step m)) :
    observe sLoop (l.flatMap step) = l.flatMap (fun m => observe sLoop (step m)) ∧
      finalState sLoop (l.flatMap step) = sLoop ∧ recvs (l.flatMap step) = l.length ∧
      raised (l.flatMap step) = false := by
  induction l with
  | nil => exact ⟨rfl, rfl, rfl, rfl⟩
  | cons m ms ih =>
    have n := h m (by simp)
    obtain ⟨i1, i2, i3, i4⟩ := ih fun x hx => h x (by simp [hx])
    rw [List.flatMap_cons, observe_append, finalState_append, recvs_append, raised_append, n.state,
      n.recvs, n.raised, i1, i2, i3, i4, List.length_cons, Nat.add_comm]
    exact ⟨rfl, rfl, rfl, rfl⟩

namespace RecvLoop
variable {w : List PeerMsg → List Ev} {c : PeerMsg → Bool} {step : PeerMsg → List Ev}
  {halt : Option PeerMsg → List Ev}

theorem prefix_eq (L : RecvLoop w c step halt) (pre : List PeerMsg) (hpre : ∀ x ∈ pre, c x = true)
    (rest : List PeerMsg) : w (pre ++ rest) = pre.flatMap step ++ w rest := by
  induction pre with
  | nil => rfl
  | cons x xs ih =>
    rw [List.cons_append, L.cons, if_pos (hpre x (by simp)), ih fun y hy => hpre y (by simp [hy]),
      List.flatMap_cons, List.append_assoc]

theorem closed (L : RecvLoop w c step halt) (peer : List PeerMsg) :
    w peer = (peer.takeWhile c).flatMap step ++ halt (peer.dropWhile c).head? := by
  have h := L.prefix_eq (peer.takeWhile c) (List.all_eq_true.1 List.all_takeWhile) (peer.dropWhile c)
  rw [List.takeWhile_append_dropWhile] at h
  rw [h]
  have hm := List.head?_dropWhile_not c peer
  cases hd : peer.dropWhile c with
  | nil => rw [L.silent]; rfl
  | cons m rest => rw [hd] at hm; rw [L.cons, if_neg (by simp [show c m = false from hm])]; rfl

theorem stops (L : RecvLoop w c step halt) (pre post : List PeerMsg) (m : PeerMsg)
    (hpre : ∀ x ∈ pre, c x = true) (hm : c m = false) (h1 : recvs (halt (some m)) = 1) :
    w (pre ++ m :: post) = w (pre ++ [m]) ∧ recvs (w (pre ++ m :: post)) = pre.length + 1 := by
  have e : ∀ post', w (pre ++ m :: post') = pre.flatMap step ++ halt (some m) := fun post' => by
    rw [L.prefix_eq pre hpre, L.cons, if_neg (by simp [hm])]
  refine ⟨by rw [e post, e []], ?_⟩
  rw [e post, recvs_append, (steps_facts step pre fun x hx => L.neutral x (hpre x hx)).2.2.1, h1]

/-- `[.recv, .raise]`: the one irregular end, an exception escaping `_c_store_scp` -/
theorem safe (L : RecvLoop w c step halt)
    (hhalt : ∀ h, halt h = [.recv, .raise] ∨ ∃ y n, Ends (halt h) y n) (peer : List PeerMsg) :
    (∀ y ∈ observe sLoop (w peer), y.lockHeld = false) ∧ (finalState sLoop (w peer)).lock = false ∧
      (finalState sLoop (w peer)).ckpt = !raised (w peer) ∧
      (raised (w peer) = false → ∃ pre y, observe sLoop (w peer) = pre ++ [y] ∧ y.paused = false) := by
  have hn : ∀ m ∈ peer.takeWhile c, Neutral (step m) := fun m hm =>
    L.neutral m (List.all_eq_true.1 List.all_takeWhile m hm)
  obtain ⟨s1, s2, _, s4⟩ := steps_facts step (peer.takeWhile c) hn
  have hpre : ∀ y ∈ (peer.takeWhile c).flatMap (fun m => observe sLoop (step m)), y.lockHeld = false :=
    fun y hy => by
      obtain ⟨m, hm, hy⟩ := List.mem_flatMap.1 hy
      simpa using List.all_eq_true.1 (hn m hm).lockFree y hy
  rw [L.closed peer, observe_append, finalState_append, raised_append, s1, s2, s4]
  rcases hhalt (peer.dropWhile c).head? with e | ⟨y, n, e⟩
  · rw [e]
    refine ⟨fun y hy => ?_, rfl, rfl, fun h => nomatch h⟩
    rw [show observe sLoop [.recv, .raise] = [] from rfl, List.append_nil] at hy
    exact hpre y hy
  · rw [e.observe, e.state, e.raised]
    refine ⟨fun y' hy => ?_, rfl, rfl, fun _ => ⟨_, y, rfl, e.running⟩⟩
    rcases List.mem_append.1 hy with hy | hy
    · exact hpre y' hy
    · rw [List.mem_singleton.1 hy]; exact e.lockFree

/-- `ok`: the messages on which the code keeps to the property (all of them for C-FIND) -/
theorem meets (L : RecvLoop w c step halt) (S : Service) (ok : PeerMsg → Prop)
    (hmsg : ∀ m, ok m → c m = S.continues m ∧
      (c m = true → observe sLoop (step m) = (S.pending m).toList) ∧
      (c m = false → Ends (halt (some m)) (S.last (some m)) (S.abortsAt (some m))))
    (hsilent : Ends (halt none) (S.last none) (S.abortsAt none))
    (peer : List PeerMsg) (hok : ∀ m ∈ consumed S.continues peer, ok m) :
    observe sLoop (w peer) = S.expectedYields peer ∧ aborts (w peer) = S.expectedAborts peer ∧
      raised (w peer) = false := by
  induction peer with
  | nil =>
    rw [L.silent]
    exact ⟨hsilent.observe, hsilent.aborts, hsilent.raised⟩
  | cons m rest ih =>
    cases hS : S.continues m with
    | true =>
      have hok' : ∀ x ∈ m :: consumed S.continues rest, ok x := by simpa [consumed, hS] using hok
      obtain ⟨hc, hstep, _⟩ := hmsg m (hok' m (by simp))
      have hcm := hc.trans hS
      have n := L.neutral m hcm
      obtain ⟨i1, i2, i3⟩ := ih fun x hx => hok' x (by simp [hx])
      rw [L.cons, if_pos hcm, observe_append, n.state, hstep hcm, i1, aborts_append, n.aborts, i2,
        raised_append, n.raised, i3]
      refine ⟨?_, by simp [Service.expectedAborts, hS], rfl⟩
      simp only [Service.expectedYields, List.takeWhile_cons, List.dropWhile_cons, hS, if_true,
        List.filterMap_cons]
      cases S.pending m <;> rfl
    | false =>
      obtain ⟨hc, _, hhalt⟩ := hmsg m (by simpa [consumed, hS] using hok)
      have hcm := hc.trans hS
      have e := hhalt hcm
      rw [L.cons, if_neg (by simp [hcm])]
      exact ⟨by simpa [Service.expectedYields, hS] using e.observe,
        by simpa [Service.expectedAborts, hS] using e.aborts, e.raised⟩

end RecvLoop

theorem response_cases (ek : Kind) (m : PeerMsg) :
    response ek m = none ∨ ∃ st id, m = .rsp ek true st id := by
  cases m with
  | rsp k v st id =>
    by_cases hk : k = ek
    · cases v
      · exact .inl rfl
      · exact .inr ⟨st, id, by rw [hk]⟩
    · cases v <;> exact .inl (by simp [response, hk])
  | _ => exact .inl rfl

/-- how both generators react to a message they cannot use: `_handle_no_response()` if nothing
arrived, `abort()` otherwise -/
def reaction : PeerMsg → List Ev
  | .none why => handleNoResponse why
  | _ => [.abort]

theorem giveUp_reaction_ends (m : PeerMsg) : Ends (giveUp (reaction m)) emptyYield (aborts (reaction m)) := by
  cases m with
  | none why => cases why <;> exact ⟨rfl, rfl, rfl, rfl, rfl, rfl, rfl⟩
  | _ => exact ⟨rfl, rfl, rfl, rfl, rfl, rfl, rfl⟩

theorem giveUp_ends (S : Service) (m : PeerMsg) (h : response S.kind m = none) :
    Ends (giveUp (reaction m)) (S.last (some m)) (S.abortsAt (some m)) := by
  have hl : S.last (some m) = emptyYield := by simp [Service.last, h]
  have ha : S.abortsAt (some m) = aborts (reaction m) := by
    cases m with
    | none why => cases why <;> rfl
    | storeRq cx => rfl
    | rsp k v st id => simp [Service.abortsAt, h]; rfl
  rw [hl, ha]
  exact giveUp_reaction_ends m

theorem giveUp_abort_ends : Ends (giveUp [.abort]) emptyYield 1 :=
  ⟨rfl, rfl, rfl, rfl, rfl, rfl, rfl⟩

/-- what one continuing message makes the generator do -/
def stepFind (rq : Bool) : PeerMsg → List Ev
  | .rsp _ _ st id =>
    if rq && st == 0xB001 then [.recv, .yield (some st) .none]
    else [.recv, .acquire, .release, .yield (some st) (decodeFind id)]
  | _ => []

/-- what the message that ends `_wrap_find_responses` makes it do -/
def haltFind : Option PeerMsg → List Ev
  | none => giveUp [.abort]
  | some m =>
    match response .find m with
    | some (st, _) => [.recv, .setCkpt, .yield (some st) .none, .setCkpt]
    | none => giveUp (reaction m)

theorem stepFind_facts (rq : Bool) (k : Kind) (v : Bool) (st : Nat) (id : Ident) :
    Neutral (stepFind rq (.rsp k v st id)) ∧
      observe sLoop (stepFind rq (.rsp k v st id)) = [⟨some st, (find rq).identPending st id, false, true⟩] := by
  simp only [stepFind, find]
  split
  · exact ⟨⟨rfl, rfl, rfl, rfl, rfl⟩, rfl⟩
  · cases id <;> exact ⟨⟨rfl, rfl, rfl, rfl, rfl⟩, rfl⟩

/-- the code's test for going on is the service's own -/
theorem wrapFind_loop (rq : Bool) : RecvLoop (wrapFind rq) (find rq).continues (stepFind rq) haltFind where
  cons m rest := by
    cases m with
    | rsp k v st id =>
      cases k <;> cases v
      case find.true =>
        by_cases hb : (rq && st == 0xB001) = true
        · simp [wrapFind, stepFind, Service.continues, find, response, scuFinal, hb]
        · by_cases hp : category st = .pending <;>
            simp [wrapFind, stepFind, haltFind, Service.continues, find, response, scuFinal, hb, hp]
      all_goals rfl
    | _ => rfl
  silent := rfl
  neutral m h := by
    cases m with
    | rsp k v st id => exact (stepFind_facts rq k v st id).1
    | _ => cases h

theorem haltFind_ends (rq : Bool) (h : Option PeerMsg) :
    Ends (haltFind h) ((find rq).last h) ((find rq).abortsAt h) := by
  cases h with
  | none => exact giveUp_abort_ends
  | some m =>
    rcases response_cases .find m with hr | ⟨st, id, rfl⟩
    · simp only [haltFind, hr]
      exact giveUp_ends (find rq) m hr
    · exact ⟨rfl, rfl, rfl, rfl, rfl, rfl, rfl⟩

theorem wrapFind_meets (rq : Bool) (peer : List PeerMsg) :
    observe sLoop (wrapFind rq peer) = (find rq).expectedYields peer ∧
      aborts (wrapFind rq peer) = (find rq).expectedAborts peer ∧ raised (wrapFind rq peer) = false := by
  refine (wrapFind_loop rq).meets (find rq) (fun _ => True)
    (fun m _ => ⟨rfl, fun hc => ?_, fun _ => haltFind_ends rq (some m)⟩) (haltFind_ends rq none) peer
    (fun _ _ => trivial)
  rcases response_cases .find m with hr | ⟨st, id, rfl⟩
  · simp [Service.continues, find, hr] at hc
  · exact (stepFind_facts rq _ _ st id).2

theorem wrapFind_safe (rq : Bool) (peer : List PeerMsg) :
    (∀ y ∈ observe sLoop (wrapFind rq peer), y.lockHeld = false) ∧
      (finalState sLoop (wrapFind rq peer)).lock = false ∧
      (finalState sLoop (wrapFind rq peer)).ckpt = !raised (wrapFind rq peer) ∧
      (raised (wrapFind rq peer) = false →
        ∃ pre y, observe sLoop (wrapFind rq peer) = pre ++ [y] ∧ y.paused = false) :=
  (wrapFind_loop rq).safe (fun h => .inr ⟨_, _, haltFind_ends rq h⟩) peer

/-- a message after which `_wrap_get_move_responses` asks for another one: any C-STORE primitive whose
sub-operation does not raise, or a valid Pending C-GET *or* C-MOVE response -/
def contGM : PeerMsg → Bool
  | .rsp k valid st _ =>
    k == .store || ((k == .get || k == .move) && valid && category st == .pending)
  | .storeRq cx => cx != .noClass
  | .none _ => false

def stepGM : PeerMsg → List Ev
  | .rsp k _ st _ => if k == .store then .recv :: cStoreScp .accepted else [.recv, .yield (some st) .none]
  | .storeRq cx => .recv :: cStoreScp cx
  | .none _ => []

/-- what the message that ends `_wrap_get_move_responses` makes it do -/
def haltGM : Option PeerMsg → List Ev
  | some (.rsp k true st id) =>
    if k == .get || k == .move then
      .recv :: (finalIdentGM st id).1 ++ [.setCkpt, .yield (some st) (finalIdentGM st id).2, .setCkpt]
    else giveUp [.abort]
  | some (.storeRq _) => [.recv, .raise]
  | some m => giveUp (reaction m)
  | none => giveUp [.abort]

theorem wrapGetMove_loop : RecvLoop wrapGetMove contGM stepGM haltGM where
  cons m rest := by
    cases m with
    | none w => rfl
    | storeRq cx => cases cx <;> rfl
    | rsp k valid st id => cases k <;> cases valid <;> rfl
  silent := rfl
  neutral m h := by
    cases m with
    | none w => cases h
    | storeRq cx =>
      cases cx
      case noClass => cases h
      all_goals exact ⟨rfl, rfl, rfl, rfl, rfl⟩
    | rsp k valid st id => simp only [stepGM]; split <;> exact ⟨rfl, rfl, rfl, rfl, rfl⟩

theorem finalIdentGM_fst (st : Nat) (id : Ident) :
    (finalIdentGM st id).1 = [] ∨ (finalIdentGM st id).1 = [.acquire, .release] := by
  simp only [finalIdentGM]
  split
  · exact .inr rfl
  · exact .inl rfl

theorem finalIdentGM_snd (ek : Kind) (st : Nat) (id : Ident) :
    (finalIdentGM st id).2 = (retrieve ek).identFinal st id := by
  simp only [finalIdentGM, retrieve]
  by_cases h : (category st == .cancel || category st == .warning || category st == .failure) = true <;>
    cases id <;> simp [h, decoded]

theorem finalGM_ends (ek : Kind) (st : Nat) (id : Ident) :
    Ends (.recv :: (finalIdentGM st id).1 ++ [.setCkpt, .yield (some st) (finalIdentGM st id).2, .setCkpt])
      ⟨some st, (retrieve ek).identFinal st id, false, false⟩ 0 := by
  rw [← finalIdentGM_snd ek]
  rcases finalIdentGM_fst st id with e | e <;> rw [e] <;> exact ⟨rfl, rfl, rfl, rfl, rfl, rfl, rfl⟩

theorem haltGM_ends (h : Option PeerMsg) : haltGM h = [.recv, .raise] ∨ ∃ y n, Ends (haltGM h) y n := by
  unfold haltGM
  split
  · split
    · exact .inr ⟨_, _, finalGM_ends .get _ _⟩
    · exact .inr ⟨_, _, giveUp_abort_ends⟩
  · exact .inl rfl
  · exact .inr ⟨_, _, giveUp_reaction_ends _⟩
  · exact .inr ⟨_, _, giveUp_abort_ends⟩

theorem wrapGetMove_safe (peer : List PeerMsg) :
    (∀ y ∈ observe sLoop (wrapGetMove peer), y.lockHeld = false) ∧
      (finalState sLoop (wrapGetMove peer)).lock = false ∧
      (finalState sLoop (wrapGetMove peer)).ckpt = !raised (wrapGetMove peer) ∧
      (raised (wrapGetMove peer) = false →
        ∃ pre y, observe sLoop (wrapGetMove peer) = pre ++ [y] ∧ y.paused = false) :=
  wrapGetMove_loop.safe haltGM_ends peer

/-- the messages on which `_wrap_get_move_responses`, used for the retrieve service whose response
class is `ek`, departs from the property: any C-STORE primitive carrying a Status (a C-STORE
*response*) is served as if it were a sub-operation request; a valid response of the *other*
retrieve service is taken for the awaited one; a C-STORE request without Affected SOP Class UID
makes `_c_store_scp` raise -/
def deviates (ek : Kind) : PeerMsg → Bool
  | .rsp k valid _ _ => k == .store || ((k == .get || k == .move) && k != ek && valid)
  | .storeRq cx => cx == .noClass
  | .none _ => false

theorem gm_cases (ek : Kind) (hek : ek = .get ∨ ek = .move) (m : PeerMsg) (hd : deviates ek m = false) :
    (∃ cx, cx ≠ .noClass ∧ m = .storeRq cx) ∨ (∃ st id, m = .rsp ek true st id) ∨
      (response ek m = none ∧ isSubOp m = false ∧ contGM m = false ∧
        haltGM (some m) = giveUp (reaction m)) := by
  cases m with
  | none w => exact .inr (.inr ⟨rfl, rfl, rfl, rfl⟩)
  | storeRq cx => exact .inl ⟨cx, by simpa [deviates] using hd, rfl⟩
  | rsp k v st id =>
    by_cases hke : k = ek
    · subst hke
      cases v
      · rcases hek with rfl | rfl <;> exact .inr (.inr ⟨rfl, rfl, rfl, rfl⟩)
      · exact .inr (.inl ⟨st, id, rfl⟩)
    · have hd' : k ≠ .store ∧ ((k = .get ∨ k = .move) → v = false) := by simpa [deviates, hke] using hd
      refine .inr (.inr ⟨by cases v <;> simp [response, hke], rfl, ?_, ?_⟩)
      · cases v <;> simp_all [contGM]
      · cases v
        · rfl
        · simp_all [haltGM, reaction]

theorem gm_ok (ek : Kind) (hek : ek = .get ∨ ek = .move) (m : PeerMsg) (hd : deviates ek m = false) :
    contGM m = (retrieve ek).continues m ∧
      (contGM m = true → observe sLoop (stepGM m) = ((retrieve ek).pending m).toList) ∧
      (contGM m = false →
        Ends (haltGM (some m)) ((retrieve ek).last (some m)) ((retrieve ek).abortsAt (some m))) := by
  rcases gm_cases ek hek m hd with ⟨cx, hcx, rfl⟩ | ⟨st, id, rfl⟩ | ⟨hr, hs, hc, hh⟩
  · cases cx
    case noClass => exact absurd rfl hcx
    all_goals exact ⟨rfl, fun _ => rfl, fun hc => by cases hc⟩
  · rcases hek with rfl | rfl <;>
      exact ⟨by simp [contGM, Service.continues, retrieve, isSubOp, response, scuFinal, bne],
        fun _ => rfl, fun _ => finalGM_ends _ st id⟩
  · refine ⟨?_, fun h => ?_, fun _ => hh ▸ giveUp_ends (retrieve ek) m hr⟩
    · simp [hc, Service.continues, hs, show response (retrieve ek).kind m = none from hr]
    · rw [hc] at h; cases h

theorem wrapGetMove_meets (ek : Kind) (hek : ek = .get ∨ ek = .move) (peer : List PeerMsg)
    (h : ∀ m ∈ consumed (retrieve ek).continues peer, deviates ek m = false) :
    observe sLoop (wrapGetMove peer) = (retrieve ek).expectedYields peer ∧
      aborts (wrapGetMove peer) = (retrieve ek).expectedAborts peer ∧
      raised (wrapGetMove peer) = false :=
  wrapGetMove_loop.meets (retrieve ek) (fun m => deviates ek m = false) (gm_ok ek hek) giveUp_abort_ends
    peer h

/-- the events of the tail of a single-response call: they touch neither the lock nor the
checkpoint, receive nothing and yield nothing -/
def quiet : Ev → Bool
  | .abort | .ret _ _ | .raise => true
  | _ => false

theorem quiet_facts (s : St) (es : List Ev) (h : es.all quiet = true) :
    finalState s es = s ∧ recvs es = 0 ∧ observe s es = [] := by
  induction es with
  | nil => exact ⟨rfl, rfl, rfl⟩
  | cons e es ih =>
    rw [List.all_cons, Bool.and_eq_true] at h
    obtain ⟨h1, h2, h3⟩ : s.step e = s ∧ isRecv e = false ∧ emit s e = [] := by
      cases e
      case abort | ret | raise => exact ⟨rfl, rfl, rfl⟩
      all_goals cases h.1
    obtain ⟨i1, i2, i3⟩ := ih h.2
    refine ⟨by rw [finalState_cons, h1, i1], ?_, by rw [observe, h1, h3, i3]; rfl⟩
    rw [recvs, List.countP_cons, h2]
    exact i2

theorem singleTail_quiet (svc : Svc) (peer : List PeerMsg) : (singleTail svc peer).all quiet = true := by
  fun_cases singleTail svc peer
  case case2 why _ => cases why <;> rfl
  all_goals rfl

/-- where model and documentation of the single-response calls meet -/
theorem singleTail_expected (svc : Svc) (st : Nat) (id : Ident) (rest : List PeerMsg) :
    singleTail svc (.rsp svc.expects true st id :: rest) =
      [.ret (documented svc st id).1 (documented svc st id).2] := by
  cases svc
  case echo | store | nDelete => rfl
  all_goals
    dsimp only [singleTail, documented]
    cases h : (category st == .success || category st == .warning)
    · rw [Bool.or_comm, h]; rfl
    · rw [Bool.or_comm, h]; cases id <;> rfl

theorem singleExpected_expected (svc : Svc) (st : Nat) (id : Ident) (rest : List PeerMsg) :
    singleExpected svc (.rsp svc.expects true st id :: rest) = (documented svc st id, 0) := by
  simp [singleExpected, response]

end PynetVerif.Scu
