import PynetVerif.Model.SExp
import PynetVerif.Model.Status
import PynetVerif.Model.Fsm
import PynetVerif.Model.Framing
import PynetVerif.Lemmas.Framing
import PynetVerif.Driver.Framing
import PynetVerif.Props.C03
import PynetVerif.Lemmas.Range
import PynetVerif.Spec.Ps38Fsm
import PynetVerif.Driver.Fsm
import PynetVerif.Driver.Status
import PynetVerif.Props.C04
import PynetVerif.Props.C28
import PynetVerif.Model.Scu
import PynetVerif.Lemmas.Scu
import PynetVerif.Spec.Scu
import PynetVerif.Driver.Scu
import PynetVerif.Props.C24
import PynetVerif.Props.C24Last
import PynetVerif.Model.Dul
import PynetVerif.Driver.Dul
import PynetVerif.Props.C05
import PynetVerif.Props.C05Code
import PynetVerif.Model.Dimse
import PynetVerif.Gen.Dimse
import PynetVerif.Lemmas.Dimse
import PynetVerif.Lemmas.Part10
import PynetVerif.Driver.Dimse
import PynetVerif.Props.C15
import PynetVerif.Props.C16
import PynetVerif.Model.Timer
import PynetVerif.Model.Cancel
import PynetVerif.Spec.Timer
import PynetVerif.Driver.Timer
import PynetVerif.Driver.Cancel
import PynetVerif.Props.C09
import PynetVerif.Props.C23
import PynetVerif.Model.Nego
import PynetVerif.Lemmas.Lists
import PynetVerif.Lemmas.Nego
import PynetVerif.Lemmas.NegoSteps
import PynetVerif.Lemmas.NegoStruct
import PynetVerif.Lemmas.NegoTable
import PynetVerif.Spec.Roles
import PynetVerif.Driver.Nego
import PynetVerif.Props.C10
import PynetVerif.Props.C11
import PynetVerif.Model.Ctx
import PynetVerif.Lemmas.Ctx
import PynetVerif.Driver.Ctx
import PynetVerif.Props.C18
import PynetVerif.Props.C19
import PynetVerif.Model.Policy
import PynetVerif.Spec.Reject
import PynetVerif.Lemmas.Strip
import PynetVerif.Driver.Policy
import PynetVerif.Props.C13
import PynetVerif.Model.MaxAssoc
import PynetVerif.Driver.MaxAssoc
import PynetVerif.Props.C14
import PynetVerif.Model.Conform
import PynetVerif.Driver.Conform
import PynetVerif.Props.C12
import PynetVerif.Model.Path
import PynetVerif.Model.QrMatch
import PynetVerif.Lemmas.Path
import PynetVerif.Lemmas.Match
import PynetVerif.Spec.Match
import PynetVerif.Driver.Path
import PynetVerif.Driver.Qr
import PynetVerif.Props.C29
import PynetVerif.Props.C30
import PynetVerif.Model.Cmd
import PynetVerif.Lemmas.CmdBytes
import PynetVerif.Lemmas.Cmd
import PynetVerif.Lemmas.CmdPar
import PynetVerif.Lemmas.CmdRow
import PynetVerif.Lemmas.CmdTables
import PynetVerif.Spec.Ps37
import PynetVerif.Driver.Cmd
import PynetVerif.Props.C17
import PynetVerif.Model.History
import PynetVerif.Driver.History
import PynetVerif.Props.C27
import PynetVerif.Props.C27Life
import PynetVerif.Model.Outcome
import PynetVerif.Driver.Outcome
import PynetVerif.Props.C06
import PynetVerif.Model.Trigger
import PynetVerif.Driver.Trigger
import PynetVerif.Props.C26
import PynetVerif.Model.Scp
import PynetVerif.Gen.Status
import PynetVerif.Gen.ScpAttrs
import PynetVerif.Lemmas.Scp
import PynetVerif.Lemmas.ScpPreds
import PynetVerif.Lemmas.ScpLoop
import PynetVerif.Lemmas.ScpServices
import PynetVerif.Spec.ScpStatus
import PynetVerif.Driver.Scp
import PynetVerif.Props.C20
import PynetVerif.Props.C21
import PynetVerif.Props.C22
import PynetVerif.Lemmas.Dul
import PynetVerif.Props.C05Inv
import PynetVerif.Model.Pdu
import PynetVerif.Model.PduPrim
import PynetVerif.Model.PduWf
import PynetVerif.Model.PduLayout
import PynetVerif.Gen.PduLayout
import PynetVerif.Spec.Ps38Layout
import PynetVerif.Lemmas.PduBytes
import PynetVerif.Lemmas.PduPred
import PynetVerif.Lemmas.PduRoundtrip
import PynetVerif.Lemmas.PduBounded
import PynetVerif.Lemmas.PduPrim
import PynetVerif.Lemmas.PduLengths
import PynetVerif.Lemmas.PduOverflow
import PynetVerif.Driver.Pdu
import PynetVerif.Props.C01
import PynetVerif.Props.C02
import PynetVerif.Model.DulAdmissible
import PynetVerif.Model.Release
import PynetVerif.Gen.Release
import PynetVerif.Driver.Release
import PynetVerif.Props.C07
import PynetVerif.Model.Timeouts
import PynetVerif.Gen.Timeouts
import PynetVerif.Driver.Timeouts
import PynetVerif.Props.C08
import PynetVerif.Model.Deliver
import PynetVerif.Driver.Deliver
import PynetVerif.Props.C25
import PynetVerif.Model.Pair
import PynetVerif.Lemmas.Pair
import PynetVerif.Lemmas.PairFifo
import PynetVerif.Lemmas.PairAct
import PynetVerif.Lemmas.PairInv
import PynetVerif.Lemmas.PairInv2
import PynetVerif.Lemmas.ActEff
import PynetVerif.Lemmas.PairAbs
import PynetVerif.Lemmas.Search
import PynetVerif.Lemmas.Fsm
import PynetVerif.Lemmas.PairAbsReach
import PynetVerif.Lemmas.PairSim
import PynetVerif.Driver.Pair
import PynetVerif.Props.C06Pair
import PynetVerif.Props.C06PairRelease
import PynetVerif.Model.Pause
import PynetVerif.Model.Life
import PynetVerif.Model.Wake
import PynetVerif.Gen.Transport
import PynetVerif.Props.C03Wake
import PynetVerif.Gen.Pause
import PynetVerif.Gen.Life
import PynetVerif.Props.C06Pause
import PynetVerif.Driver.Pause
import PynetVerif.Driver.Life
import PynetVerif.Driver.Wake
import PynetVerif.Model.Bind
import PynetVerif.Props.C13Bind
import PynetVerif.Driver.Bind
import PynetVerif.Model.Idle
import PynetVerif.Lemmas.DulStream
import PynetVerif.Model.DulBoth
import PynetVerif.Props.C05Stream
import PynetVerif.Gen.Dul
import PynetVerif.Gen.Glue
import PynetVerif.Model.Part10
import PynetVerif.Gen.Part10
import PynetVerif.Props.C25Split
import PynetVerif.Driver.Part10
import PynetVerif.Model.Serve
import PynetVerif.Props.C08Serve
